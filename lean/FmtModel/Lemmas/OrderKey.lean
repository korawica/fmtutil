import FmtModel.Py.Cmp
/-
  FmtModel.Lemmas.OrderKey — Python's tuple comparison (`Py.Cmp`) on encodings of structured keys
  coincides with the lexicographic `compare` of the key type, which Lean's core library proves to
  be a lawful linear preorder (`Std.TransOrd`).  Every order law of C04/C07/C10/C13/C14 is a
  corollary of the `Faith*` lemmas below.
-/
namespace Py
open Std

def ordInt : Ordering → Int
  | .lt => -1
  | .eq => 0
  | .gt => 1

mutual
theorem pvEq_comm (a b : PV) : pvEq a b = pvEq b a := by
  cases a <;> cases b <;> simp only [pvEq, BEq.comm]
  exact pvsEq_comm _ _
theorem pvsEq_comm (a b : PVs) : pvsEq a b = pvsEq b a := by
  cases a <;> cases b <;> simp only [pvsEq]
  rw [pvEq_comm, pvsEq_comm]
end

mutual
/-- `a > b` is `b < a` unless both are the same sentinel (`Inf > Inf` and `NegInf < NegInf` hold) -/
theorem pvGt_swap (a b : PV) (h : pvEq a b = false) : pvGt a b = pvLt b a := by
  cases a <;> cases b <;> simp only [pvGt, pvLt] <;> first | rfl | exact pvsGt_swap _ _ | simp [pvEq] at h
/-- tuple comparison looks at `<` / `>` only behind a pair that differs, so on tuples the exception is gone -/
theorem pvsGt_swap (a b : PVs) : pvsGt a b = pvsLt b a := by
  cases a <;> cases b <;> simp only [pvsGt, pvsLt]
  rename_i x xs y ys
  rw [pvEq_comm y x]
  cases h : pvEq x y
  · exact pvGt_swap _ _ h
  · exact pvsGt_swap _ _
end

/-- element-level faithfulness: equality always, `<` whenever the elements differ
    (Python's tuple comparison only applies `<` to the first differing pair) -/
structure FaithE {κ : Type} [Ord κ] (e : κ → PV) : Prop where
  eq : ∀ a b, pvEq (e a) (e b) = (compare a b == .eq)
  lt : ∀ a b, compare a b ≠ .eq → pvLt (e a) (e b) = some (compare a b == .lt)

/-- sequence-level faithfulness (tuple bodies): total -/
structure FaithS {κ : Type} [Ord κ] (e : κ → PVs) : Prop where
  eq : ∀ a b, pvsEq (e a) (e b) = (compare a b == .eq)
  lt : ∀ a b, pvsLt (e a) (e b) = some (compare a b == .lt)

theorem beq_eq_compare {α : Type} [Ord α] [LawfulEqOrd α] [BEq α] [LawfulBEq α] (a b : α) :
    (a == b) = (compare a b == .eq) := by
  rw [Bool.eq_iff_iff]; simp

theorem faithE_int : FaithE (fun i : Int => PV.int i) where
  eq a b := beq_eq_compare a b
  lt a b _ := by
    simp only [pvLt, Option.some.injEq]
    rw [Bool.eq_iff_iff]; simp [Int.compare_eq_lt]

/-- a faithful encoding stays faithful along an order embedding -/
theorem FaithE.comap {α β : Type} [Ord α] [Ord β] {e : β → PV} (he : FaithE e) (g : α → β)
    (hg : ∀ a b, compare (g a) (g b) = compare a b) : FaithE (fun a => e (g a)) where
  eq a b := by rw [he.eq, hg]
  lt a b h := by rw [he.lt _ _ (hg a b ▸ h), hg]

theorem faithE_nat : FaithE (fun n : Nat => PV.int (n : Int)) :=
  faithE_int.comap _ fun a b => by
    simp only [Int.compare_eq_ite_lt, Nat.compare_eq_ite_lt, Int.ofNat_lt]

theorem faithE_str : FaithE (fun s : Str => PV.str s) where
  eq a b := beq_eq_compare a b
  lt _ _ _ := rfl

theorem compare_prod {α β : Type} [Ord α] [Ord β] (p q : α × β) :
    compare p q = (compare p.1 q.1).then (compare p.2 q.2) := rfl

theorem cmp_fst_lt {α β : Type} [Ord α] [Ord β] {a b : α} (h : compare a b = .lt) (x y : β) :
    compare (a, x) (b, y) = .lt := by
  rw [compare_prod, h]
  rfl

theorem cmp_fst_eq {α β : Type} [Ord α] [ReflOrd α] [Ord β] (a : α) (x y : β) :
    compare (a, x) (a, y) = compare x y := by
  rw [compare_prod, (ReflCmp.compare_self : compare a a = .eq)]
  rfl

theorem faithS_cons {α β : Type} [Ord α] [Ord β] {e : α → PV} {es : β → PVs}
    (he : FaithE e) (hes : FaithS es) :
    FaithS (fun p : α × β => PVs.cons (e p.1) (es p.2)) where
  eq p q := by
    simp only [pvsEq, he.eq, hes.eq, compare_prod]
    cases compare p.1 q.1 <;> rfl
  lt p q := by
    simp only [pvsLt, he.eq, compare_prod]
    cases h : compare p.1 q.1 <;> simp [he.lt, hes.lt, h, Ordering.then]

theorem faithS_single {κ : Type} [Ord κ] {e : κ → PV} (he : FaithE e) :
    FaithS (fun a => PVs.cons (e a) .nil) where
  eq a b := by simp [pvsEq, he.eq]
  lt a b := by
    simp only [pvsLt, he.eq]
    cases h : compare a b <;> simp [he.lt, h]

theorem faithS_list {α : Type} [Ord α] {e : α → PV} (he : FaithE e) :
    FaithS (fun l : List α => PVs.ofList (l.map e)) := by
  have h : ∀ a b : List α, pvsEq (PVs.ofList (a.map e)) (PVs.ofList (b.map e)) = (compare a b == .eq)
      ∧ pvsLt (PVs.ofList (a.map e)) (PVs.ofList (b.map e)) = some (compare a b == .lt) := by
    intro a
    induction a with
    | nil => intro b; cases b <;> exact ⟨rfl, rfl⟩
    | cons x xs ih =>
      intro b
      cases b with
      | nil => exact ⟨rfl, rfl⟩
      | cons y ys =>
        simp only [List.map, PVs.ofList, pvsEq, pvsLt, he.eq, ih ys, List.compare_cons_cons]
        cases h : compare x y <;> simp [he.lt, h, Ordering.then]
  exact ⟨fun a b => (h a b).1, fun a b => (h a b).2⟩

theorem faithE_tup {κ : Type} [Ord κ] {es : κ → PVs} (hes : FaithS es) :
    FaithE (fun k => PV.tup (es k)) where
  eq a b := by simp [pvEq, hes.eq]
  lt a b _ := by simp [pvLt, hes.lt]

/-- a value that is not one of the sentinels -/
def Plain (v : PV) : Prop := v ≠ .inf ∧ v ≠ .ninf

theorem plain_tup (l : PVs) : Plain (.tup l) := ⟨by simp, by simp⟩
theorem plain_int (i : Int) : Plain (.int i) := ⟨by simp, by simp⟩
theorem plain_str (s : Str) : Plain (.str s) := ⟨by simp, by simp⟩

section SentCompare
variable {α : Type} [Ord α]
theorem cmp_nn : compare (Sent.ninf : Sent α) .ninf = .eq := rfl
theorem cmp_nv (b : α) : compare (Sent.ninf : Sent α) (.val b) = .lt := rfl
theorem cmp_ni : compare (Sent.ninf : Sent α) .inf = .lt := rfl
theorem cmp_vn (a : α) : compare (Sent.val a) .ninf = .gt := rfl
theorem cmp_vv (a b : α) : compare (Sent.val a) (.val b) = compare a b := rfl
theorem cmp_vi (a : α) : compare (Sent.val a) .inf = .lt := rfl
theorem cmp_in : compare (Sent.inf : Sent α) .ninf = .gt := rfl
theorem cmp_iv (b : α) : compare (Sent.inf : Sent α) (.val b) = .gt := rfl
theorem cmp_ii : compare (Sent.inf : Sent α) .inf = .eq := rfl
end SentCompare

instance {α : Type} [Ord α] [TransOrd α] : TransOrd (Sent α) :=
  inferInstanceAs (TransCmp (compareOn Sent.rank))

/-- comparing by an injective key identifies only equal things -/
theorem lawfulEqCmp_compareOn {α β : Type} [Ord β] [LawfulEqOrd β] {f : α → β} (hf : ∀ a b, f a = f b → a = b) :
    LawfulEqCmp (compareOn f) where
  compare_self := ReflCmp.compare_self (cmp := compare)
  eq_of_compare h := hf _ _ (LawfulEqOrd.eq_of_compare h)

instance {α : Type} [Ord α] [LawfulEqOrd α] : LawfulEqOrd (Sent α) :=
  lawfulEqCmp_compareOn (f := Sent.rank) fun a b => by cases a <;> cases b <;> simp [Sent.rank]

theorem pvEq_ninf_plain {v : PV} (h : Plain v) : pvEq .ninf v = false := by
  cases v <;> simp_all [Plain, pvEq]
theorem pvEq_inf_plain {v : PV} (h : Plain v) : pvEq .inf v = false := by
  cases v <;> simp_all [Plain, pvEq]
theorem pvEq_plain_ninf {v : PV} (h : Plain v) : pvEq v .ninf = false := pvEq_comm .. ▸ pvEq_ninf_plain h
theorem pvEq_plain_inf {v : PV} (h : Plain v) : pvEq v .inf = false := pvEq_comm .. ▸ pvEq_inf_plain h
theorem pvLt_plain_inf {v : PV} (h : Plain v) : pvLt v .inf = some true := by
  cases v <;> simp_all [Plain, pvLt]
theorem pvLt_plain_ninf {v : PV} (h : Plain v) : pvLt v .ninf = some false := by
  cases v <;> simp_all [Plain, pvLt]
theorem pvLt_inf (v : PV) : pvLt .inf v = some false := by cases v <;> simp [pvLt]
theorem pvLt_ninf (v : PV) : pvLt .ninf v = some true := by cases v <;> simp [pvLt]

/-- sentinels around a faithful encoding of plain values -/
theorem faithE_sent {α : Type} [Ord α] {e : α → PV} (he : FaithE e) (hp : ∀ a, Plain (e a)) :
    FaithE (Sent.enc e) where
  eq a b := by
    cases a <;> cases b <;>
      simp only [Sent.enc, he.eq, pvEq_ninf_plain (hp _), pvEq_inf_plain (hp _), pvEq_plain_ninf (hp _),
        pvEq_plain_inf (hp _), cmp_nn, cmp_nv, cmp_ni, cmp_vn, cmp_vv, cmp_vi, cmp_in, cmp_iv, cmp_ii] <;> rfl
  lt a b hne := by
    cases a <;> cases b <;>
      simp only [Sent.enc, pvLt_ninf, pvLt_inf, pvLt_plain_ninf (hp _), pvLt_plain_inf (hp _),
        cmp_nn, cmp_nv, cmp_ni, cmp_vn, cmp_vv, cmp_vi, cmp_in, cmp_iv, cmp_ii] at hne ⊢ <;>
      first | rfl | exact he.lt _ _ hne | exact absurd rfl hne

/-- `cmp(a, b)` on tuple keys is the three-way comparison of the structured keys -/
theorem pvCmp_tup {κ : Type} [Ord κ] [OrientedOrd κ] {es : κ → PVs} (hes : FaithS es) (a b : κ) :
    pvCmp (.tup (es a)) (.tup (es b)) = .ok (ordInt (compare a b)) := by
  simp only [pvCmp, pvGt, pvLt, pvsGt_swap, hes.lt]
  rw [OrientedOrd.eq_swap (a := b)]
  cases compare a b <;> rfl

end Py
