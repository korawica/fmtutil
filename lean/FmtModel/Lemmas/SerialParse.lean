import FmtModel.Classes.Serial
import FmtModel.Lemmas.ReHead
import FmtModel.Lemmas.Digits
import FmtModel.Lemmas.Loop
/-
  FmtModel.Lemmas.SerialParse — parsing with ONE Serial directive whose pattern is a run of a character class
  (`%n`, `%p`, `%b`): `parse_single`.  Every entry of the Serial table writes the attribute `number`, so the
  entries before the directive's own find no capture, the directive's entry converts the capture, and the
  entries after it find `number` set.
-/
namespace Serial
open Py Engine

abbrev digitCls : RE := .cls [.range '0' '9'] false

theorem inCls_digit {c : Char} (h : isAsciiDigit c = true) : inCls [.range '0' '9'] false c = true := by
  simp only [isAsciiDigit, Bool.and_eq_true, decide_eq_true_eq] at h
  simp [inCls, CItem.has, h.1, h.2]

theorem serial_obj0 : obj0 Serial.cls = { attrs := [("number".toList, AV.none)], level := [false] } := by
  decide +kernel

def objNumber (s : Str) : Obj := { attrs := [("number".toList, .str s)], level := [true] }

/-- `__init__` on the single capture `nm = s` of the entry `(nm, lv)` of the Serial table -/
theorem init_single {nm s v : Str} {lv : List Nat} {pre post : List (Str × List Nat)} (strict : Bool)
    (hp : Serial.cls.priorities = pre ++ (nm, lv) :: post)
    (hpre : ∀ x ∈ pre, splitFirst x.1 ['_'] = "number".toList ∧ isDefaultName x.1 = false ∧ nm ≠ x.1)
    (hnm : splitFirst nm ['_'] = "number".toList ∧ isDefaultName nm = false ∧ splitFirst nm ['_', '_'] = nm)
    (hpost : ∀ x ∈ post, splitFirst x.1 ['_'] = "number".toList ∧ nm ≠ x.1)
    (hlv : levelUpdate [false] lv = .ok [true])
    (hc : ∀ o, Serial.conv nm o s = .ok (.str v, o)) (hv : v ≠ []) :
    init Serial.cls [(nm, some s)] strict = .ok (objNumber v) := by
  refine Engine.init_single (o := objNumber v) strict hnm.2.2 hp ?_ ?_ ?_
  · intro x hx
    rw [serial_obj0]
    exact prioStep_absent (hpre x hx).1 rfl (hpre x hx).2.1 (by simp [alookup, (hpre x hx).2.2])
  · rw [serial_obj0]
    exact prioStep_conv (C := Serial.cls) (formats := [(nm, some s)]) hnm.1 rfl hnm.2.1 (if_pos rfl) (hc _) hlv
  · intro x hx
    refine prioStep_skip (hpost x hx).1 ?_ (by simp [alookup, (hpost x hx).2])
    cases v with
    | nil => exact absurd rfl hv
    | cons _ _ => rfl

/-- **one directive, one run**: if the format `f` compiles to `^(?P<nm>body)\Z`, `body` prefers to take the
    whole of `s`, and `__init__` accepts the capture, `parse` returns that object -/
theorem parse_single {f nm s : Str} {body : RE} {o : Obj} (strict : Bool) (hf : f ≠ [])
    (hpat : patternFor Serial.cls f = .ok (wholeGrp nm body)) (hn : body.names = [])
    (hb : Hd body s.length s [] [] []) (hi : init Serial.cls [(nm, some s)] strict = .ok o) :
    Engine.parse Serial.cls s (some f) strict = .ok o := by
  rw [parse_wholeGrp strict hf hpat hn hb, hi]; rfl

/-- the value of an object whose `number` is a decimal text -/
theorem value_objNumber {s : Str} (hne : s ≠ []) (hd : ∀ c ∈ s, isAsciiDigit c = true) :
    Serial.value (objNumber s) = .ok (Nat.ofDigitChars 10 s 0) := by
  have : Serial.string (objNumber s) = s := rfl
  simp [Serial.value, this, pyInt_digits hne hd]

-- `%n` ---------------------------------------------------------------------------------------------------

theorem pattern_n : patternFor Serial.cls "%n".toList = .ok (wholeGrp "number".toList (.star digitCls)) := by
  decide +kernel

theorem init_number (s : Str) (hne : s ≠ []) (strict : Bool) :
    init Serial.cls [("number".toList, some s)] strict = .ok (objNumber s) :=
  init_single strict (pre := []) (lv := [1]) (post := Serial.cls.priorities.tail) rfl (by decide) (by decide) (by decide)
    (by decide) (fun _ => rfl) hne

/-- parsing a non-empty run of ASCII digits with `%n` gives the object whose `number` is that text -/
theorem parse_digits (s : Str) (hne : s ≠ []) (hd : ∀ c ∈ s, isAsciiDigit c = true) (strict : Bool) :
    Engine.parse Serial.cls s (some "%n".toList) strict = .ok (objNumber s) :=
  parse_single strict (by decide) pattern_n rfl
    (by simpa using hd_star_run s.length s [] [] (fun x hx => inCls_digit (hd x hx)) (fun _ _ h => by cases h))
    (init_number s hne strict)

-- `%p` ---------------------------------------------------------------------------------------------------

theorem pattern_p :
    patternFor Serial.cls "%p".toList = .ok (wholeGrp "number_pad".toList (.rep 3 3 digitCls)) := by
  decide +kernel

theorem removePad_ne_nil (s : Str) : removePad s ≠ [] := by
  unfold removePad; split <;> simp_all

theorem removePad_digits {s : Str} (hd : ∀ c ∈ s, isAsciiDigit c = true) : ∀ c ∈ removePad s, isAsciiDigit c = true := by
  unfold removePad
  split
  · simp; decide
  · exact fun c hc => hd c ((List.dropWhile_sublist _).mem hc)

/-- leading zeros carry no value -/
theorem ofDigitChars_removePad : ∀ s : Str, Nat.ofDigitChars 10 (removePad s) 0 = Nat.ofDigitChars 10 s 0
  | [] => rfl
  | c :: cs => by
    by_cases h : c = '0'
    · subst h
      have : removePad ('0' :: cs) = removePad cs := by simp [removePad]
      rw [this, ofDigitChars_removePad cs]; rfl
    · simp [removePad, h]

/-- parsing a three-digit text with `%p` gives the object whose `number` is the text without its padding -/
theorem parse_pad (s : Str) (hl : s.length = 3) (hd : ∀ c ∈ s, isAsciiDigit c = true) (strict : Bool) :
    Engine.parse Serial.cls s (some "%p".toList) strict = .ok (objNumber (removePad s)) :=
  parse_single strict (by decide) pattern_p rfl
    (by simpa using hd_rep_run s.length [] [] s 3 (fun x hx => inCls_digit (hd x hx)) hl)
    (init_single strict (pre := [Serial.cls.priorities.head!]) (lv := [1]) (post := Serial.cls.priorities.tail.tail) rfl
      (by decide) (by decide) (by decide) (by decide) (fun _ => rfl) (removePad_ne_nil s))

-- `%b` ---------------------------------------------------------------------------------------------------

abbrev bitCls : RE := .cls [.range '0' '1'] false

theorem inCls_bit {c : Char} (h : c = '0' ∨ c = '1') : inCls [.range '0' '1'] false c = true := by
  rcases h with rfl | rfl <;> decide

theorem pattern_b : patternFor Serial.cls "%b".toList = .ok (wholeGrp "number_binary".toList (.star bitCls)) := by
  decide +kernel

theorem conv_binary {s : Str} (hne : s ≠ []) (hb : ∀ c ∈ s, c = '0' ∨ c = '1') (o : Obj) :
    Serial.conv "number_binary".toList o s = .ok (.str (showNat (Nat.ofDigitChars 2 s 0)), o) := by
  simp [Serial.conv, pyInt2_bits hne hb, showInt]

/-- parsing a non-empty text of binary digits with `%b` gives the object whose `number` is the decimal text
    of its binary value -/
theorem parse_bin (s : Str) (hne : s ≠ []) (hb : ∀ c ∈ s, c = '0' ∨ c = '1') (strict : Bool) :
    Engine.parse Serial.cls s (some "%b".toList) strict = .ok (objNumber (showNat (Nat.ofDigitChars 2 s 0))) :=
  parse_single strict (by decide) pattern_b rfl
    (by simpa using hd_star_run s.length s [] [] (fun x hx => inCls_bit (hb x hx)) (fun _ _ h => by cases h))
    (init_single strict (pre := Serial.cls.priorities.take 2) (lv := [1]) (post := Serial.cls.priorities.drop 3) rfl
      (by decide) (by decide) (by decide) (by decide) (conv_binary hne hb) (showNat_ne_nil _))

theorem value_objNumber_showNat (n : Nat) : Serial.value (objNumber (showNat n)) = .ok n := by
  rw [value_objNumber (showNat_ne_nil n) (showNat_digits n), showNat_eq, Nat.ofDigitChars_ten_toDigits]

end Serial
