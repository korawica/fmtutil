import FmtModel.Engine
import FmtModel.Lemmas.ReHead
import FmtModel.Lemmas.Basic
/-
  FmtModel.Lemmas.Loop — symbolic execution of the priority loop: one lemma per way an entry
  can be handled, so that a proof walks the regenerated priorities table entry by entry.
-/
namespace Engine
open Py

variable {Val : Type} {C : Cls Val} {formats : List (Str × Option Str)} {strict : Bool} {o : Obj}
  {name attr : Str} {lv : List Nat}

/-- the attribute is already set and this entry has no capture: nothing happens (both modes) -/
theorem prioStep_skip (hattr : splitFirst name ['_'] = attr) (ht : C.truthy (o.get attr) = true)
    (hl : alookup name formats = none) : prioStep C formats strict o (name, lv) = .ok o := by
  cases strict <;> simp [prioStep, hattr, ht, hl]

/-- the attribute is already set, non-strict mode: later statements are not even looked at -/
theorem prioStep_skip_nonstrict (hattr : splitFirst name ['_'] = attr) (ht : C.truthy (o.get attr) = true) :
    prioStep C formats false o (name, lv) = .ok o := by
  simp [prioStep, hattr, ht]

/-- the attribute is already set, strict mode, and the capture agrees -/
theorem prioStep_check {text : Str} {p : AV} {o' : Obj} (hattr : splitFirst name ['_'] = attr)
    (ht : C.truthy (o.get attr) = true) (hl : alookup name formats = some (some text))
    (hc : C.conv name o text = .ok (p, o')) (hd : C.differs (o.get attr) p = false) :
    prioStep C formats true o (name, lv) = .ok o' := by
  simp [prioStep, hattr, ht, hl, hc, hd]

/-- the attribute is not set yet and the entry has a capture: convert and store it -/
theorem prioStep_conv {text : Str} {v : AV} {o' : Obj} {l' : List Bool} (hattr : splitFirst name ['_'] = attr)
    (hf : C.truthy (o.get attr) = false) (hnd : isDefaultName name = false)
    (hl : alookup name formats = some (some text)) (hc : C.conv name o text = .ok (v, o'))
    (hlv : levelUpdate o'.level lv = .ok l') :
    prioStep C formats strict o (name, lv) = .ok { (o'.set attr v) with level := l' } := by
  simp [prioStep, hattr, hf, hnd, hl, hc, hlv]

/-- the attribute is not set and there is no capture for this (non-default) entry -/
theorem prioStep_absent (hattr : splitFirst name ['_'] = attr) (hf : C.truthy (o.get attr) = false)
    (hnd : isDefaultName name = false) (hl : alookup name formats = none) :
    prioStep C formats strict o (name, lv) = .ok o := by
  simp [prioStep, hattr, hf, hnd, hl]

/-- a `_default` / `_fix` entry fills an attribute that is still unset -/
theorem prioStep_default {v : AV} {o' : Obj} {l' : List Bool} (hattr : splitFirst name ['_'] = attr)
    (hf : C.truthy (o.get attr) = false) (hd : isDefaultName name = true)
    (hc : C.dflt name o = .ok (v, o')) (hlv : levelUpdate o'.level lv = .ok l') :
    prioStep C formats strict o (name, lv) = .ok { (o'.set attr v) with level := l' } := by
  simp [prioStep, hattr, hf, hd, hc, hlv]

theorem foldlM_cons_ok {α β : Type} (f : β → α → R β) (b b' : β) (a : α) (as : List α) (h : f b a = .ok b') :
    (a :: as).foldlM f b = as.foldlM f b' := by
  simp [List.foldlM, h]

theorem foldlM_nil_ok {α β : Type} (f : β → α → R β) (b : β) : ([] : List α).foldlM f b = .ok b := rfl

/-- steps that leave the state alone -/
theorem foldlM_fixed {α β : Type} (f : β → α → R β) (b : β) :
    ∀ as : List α, (∀ a ∈ as, f b a = .ok b) → as.foldlM f b = .ok b
  | [], _ => rfl
  | a :: as, h => by
    rw [foldlM_cons_ok f b b a as (h a (by simp))]
    exact foldlM_fixed f b as fun x hx => h x (by simp [hx])

/-- a loop in which exactly one step changes the state -/
theorem foldlM_one {α β : Type} (f : β → α → R β) {b b' : β} {a : α} {pre post : List α}
    (hpre : ∀ x ∈ pre, f b x = .ok b) (ha : f b a = .ok b') (hpost : ∀ x ∈ post, f b' x = .ok b') :
    (pre ++ a :: post).foldlM f b = .ok b' := by
  rw [List.foldlM_append, foldlM_fixed f b pre hpre]
  show (a :: post).foldlM f b = _
  rw [foldlM_cons_ok f b b' a post ha, foldlM_fixed f b' post hpost]

-- one capture ------------------------------------------------------------------------------------------

theorem validateFormat_single {nm : Str} (hk : splitFirst nm ['_', '_'] = nm) (v : Option Str) :
    validateFormat [(nm, v)] = .ok [(nm, v)] := by
  simp [validateFormat, validateStep, List.foldlM, hk, alookup]

/-- the object the priority loop starts from -/
def obj0 {Val} (C : Cls Val) : Obj :=
  { attrs := (C.slots.filter (· != lower C.name)).map fun s => (s, AV.none), level := List.replicate C.baseLevel false }

/-- `__init__` on a single capture `nm = s`, on ANY priorities table split at the one entry that changes the
    object: the entries before it do nothing, the entries after it find the attribute set -/
theorem init_single {Val} {C : Cls Val} {nm s : Str} {pre post : List (Str × List Nat)} {e : Str × List Nat} {o : Obj}
    (strict : Bool) (hk : splitFirst nm ['_', '_'] = nm) (hp : C.priorities = pre ++ e :: post)
    (hpre : ∀ x ∈ pre, prioStep C [(nm, some s)] strict (obj0 C) x = .ok (obj0 C))
    (he : prioStep C [(nm, some s)] strict (obj0 C) e = .ok o)
    (hpost : ∀ x ∈ post, prioStep C [(nm, some s)] strict o x = .ok o) :
    init C [(nm, some s)] strict = C.validate o := by
  have hl : priorityLoop C [(nm, some s)] strict (obj0 C) = .ok o := by
    unfold priorityLoop; rw [hp]; exact foldlM_one _ hpre he hpost
  unfold init
  simp only [validateFormat_single hk, Except.ok_bind]
  exact (congrArg (fun r => r.bind C.validate) hl : _)

theorem fmtOrBase_some {Val} (C : Cls Val) {f : Str} (hf : f ≠ []) : fmtOrBase C (some f) = f := by
  cases f with
  | nil => exact absurd rfl hf
  | cons _ _ => rfl

/-- a format that compiles to `^(?P<nm>body)\Z`, on a subject that `body` prefers to consume whole:
    `parse` is `__init__` on the one capture -/
theorem parse_wholeGrp {Val} {C : Cls Val} {f nm s : Str} {body : RE} (strict : Bool) (hf : f ≠ [])
    (hpat : patternFor C f = .ok (wholeGrp nm body)) (hn : body.names = [])
    (hb : Hd body s.length s [] [] []) :
    parse C s (some f) strict = wrapValueErrors (init C [(nm, some s)] strict) := by
  unfold parse
  rw [fmtOrBase_some C hf, hpat]
  simp only [parseWith, search_wholeGrp hb, groupdict_wholeGrp hn, Except.ok_bind]

end Engine
