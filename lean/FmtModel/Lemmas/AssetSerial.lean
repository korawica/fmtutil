import FmtModel.Assets
import FmtModel.Lemmas.SerialParse
/-
  FmtModel.Lemmas.AssetSerial — the asset engine on ONE Serial directive: the same three stages as the classic
  engine (compiled pattern `^(?P<nm>body)\Z`, one capture, a loop in which one step changes the state).
-/
namespace Assets
open Py Engine

/-- the pattern `parseKw` compiles -/
def patternOf (rows : List ARow) (f : Str) : R RE := do
  let table ← regexTable rows
  let g ← genFormat table f [] []
  compileRe (Gen.asset_anchor_pre ++ g ++ Gen.asset_anchor_post)

theorem parseKw_wholeGrp {rows : List ARow} {conv : Str → Str → R Str} {dflt f nm s : Str} {body : RE} (strict : Bool)
    (hf : f ≠ []) (hpat : patternOf rows f = .ok (wholeGrp nm body)) (hn : body.names = [])
    (hb : Hd body s.length s [] [] []) (hk : splitFirst nm ['_', '_'] = nm) :
    parseKw rows conv dflt s (some f) strict = initParsing rows conv [(nm, some s)] strict := by
  have hf' : (if f.isEmpty then dflt else f) = f := by cases f <;> simp_all
  simp only [patternOf, Except.bind_eq_ok] at hpat
  obtain ⟨table, ht, g, hg, hpat⟩ := hpat
  simp only [parseKw, hf', ht, hg, hpat, Except.ok_bind, search_wholeGrp hb, groupdict_wholeGrp hn, validateFormat_single hk]

/-- `__init_parsing__` on the single capture `nm = s` of a table whose plain rows all write `attr` -/
theorem initParsing_single {rows : List ARow} {conv : Str → Str → R Str} {nm s v attr : Str} {pre post : List ARow}
    {e : ARow} (strict : Bool) (hp : rows.filter (fun r => !r.2.2.1) = pre ++ e :: post) (he : e.2.1 = nm)
    (hattr : ∀ x ∈ rows, splitFirst x.2.1 ['_'] = attr)
    (hpre : ∀ x ∈ pre, nm ≠ x.2.1) (hpost : ∀ x ∈ post, nm ≠ x.2.1) (hc : conv nm s = .ok v) (hv : v ≠ []) :
    initParsing rows conv [(nm, some s)] strict = .ok [(attr, v)] := by
  have hin : ∀ x, x ∈ pre ∨ x = e ∨ x ∈ post → x ∈ rows := fun x hx =>
    (List.mem_filter.mp (by rw [hp]; simpa using hx)).1
  unfold initParsing
  rw [hp]
  refine foldlM_one _ ?_ ?_ ?_
  · intro x hx
    simp [alookup, hpre x hx]
  · subst he
    simp [hattr e (hin e (.inr (.inl rfl))), alookup, hc, ainsert]
  · intro x hx
    have : v.isEmpty = false := by cases v <;> simp_all
    cases strict <;> simp [hattr x (hin x (.inr (.inr hx))), alookup, hpost x hx, this]

theorem serialPrepare_digits {s : Str} (hne : s ≠ []) (hd : ∀ c ∈ s, isAsciiDigit c = true) :
    serialPrepare s = .ok (Nat.ofDigitChars 10 s 0) := by
  simp [serialPrepare, pyIntBase_digits s hne hd, digitsVal_eq_ofDigitChars s 0 hd]

theorem serialPrepare_showNat (n : Nat) : serialPrepare (showNat n) = .ok n := by
  rw [serialPrepare_digits (showNat_ne_nil n) (showNat_digits n), showNat_eq, Nat.ofDigitChars_ten_toDigits]

theorem pattern_p : patternOf Gen.asset_serial_rows "%p".toList
    = .ok (wholeGrp "number_pad".toList (.rep 3 3 Serial.digitCls)) := by decide +kernel

/-- the asset engine reads a three-digit text with `%p` as its decimal value -/
theorem parseSerial_pad (s : Str) (hl : s.length = 3) (hd : ∀ c ∈ s, isAsciiDigit c = true) (strict : Bool) :
    parseSerial s (some "%p".toList) strict = .ok (Nat.ofDigitChars 10 s 0) := by
  unfold parseSerial
  rw [parseKw_wholeGrp strict (by decide) pattern_p rfl
      (by simpa using hd_rep_run s.length [] [] s 3 (fun x hx => Serial.inCls_digit (hd x hx)) hl)
      (by decide),
    initParsing_single strict (rows := Gen.asset_serial_rows) (conv := serialConv) (nm := "number_pad".toList) (s := s)
      (pre := [Gen.asset_serial_rows.head!]) (post := Gen.asset_serial_rows.tail.tail)
      (attr := "number".toList) (v := Serial.removePad s) rfl rfl (by decide) (by decide) (by decide) rfl
      (Serial.removePad_ne_nil s)]
  simp [alookup, serialPrepare_digits (Serial.removePad_ne_nil s) (Serial.removePad_digits hd), Serial.ofDigitChars_removePad, wrapValueErrors]

theorem pattern_b : patternOf Gen.asset_serial_rows "%b".toList
    = .ok (wholeGrp "number_binary".toList (.rep 8 8 Serial.bitCls)) := by decide +kernel

/-- the asset engine reads an eight-bit text with `%b` as its binary value -/
theorem parseSerial_bin (s : Str) (hl : s.length = 8) (hb : ∀ c ∈ s, c = '0' ∨ c = '1') (strict : Bool) :
    parseSerial s (some "%b".toList) strict = .ok (Nat.ofDigitChars 2 s 0) := by
  have hne : s ≠ [] := by intro h; simp [h] at hl
  unfold parseSerial
  rw [parseKw_wholeGrp strict (by decide) pattern_b rfl
      (by simpa using hd_rep_run s.length [] [] s 8 (fun x hx => Serial.inCls_bit (hb x hx)) hl)
      (by decide),
    initParsing_single strict (rows := Gen.asset_serial_rows) (conv := serialConv) (nm := "number_binary".toList) (s := s)
      (pre := Gen.asset_serial_rows.take 2) (post := Gen.asset_serial_rows.drop 3)
      (attr := "number".toList) (v := showNat (Nat.ofDigitChars 2 s 0)) rfl rfl (by decide) (by decide) (by decide)
      (by simp [serialConv, pyInt2_bits hne hb, showInt]) (showNat_ne_nil _)]
  simp [alookup, serialPrepare_showNat, wrapValueErrors]

end Assets
