import FmtModel.Py.Num
import FmtModel.Lemmas.Basic
/-
  FmtModel.Lemmas.Digits — `str(n)` is a non-empty run of ASCII digits whose value is `n`, and
  `int(str(n)) = n`, for every natural number (Lean core proves the facts about `Nat.toDigits`).
-/
namespace Py

theorem showNat_eq (n : Nat) : showNat n = Nat.toDigits 10 n := by
  simp [showNat, Nat.toList_repr]

theorem showNat_ne_nil (n : Nat) : showNat n ≠ [] := by
  rw [showNat_eq]; exact Nat.toDigits_ne_nil

theorem isAsciiDigit_of_isDigit {c : Char} (h : c.isDigit = true) : isAsciiDigit c = true := by
  simp only [Char.isDigit, Bool.and_eq_true, decide_eq_true_eq] at h
  simp only [isAsciiDigit, Bool.and_eq_true, decide_eq_true_eq]
  exact ⟨h.1, h.2⟩

theorem showNat_digits (n : Nat) : ∀ c ∈ showNat n, isAsciiDigit c = true := by
  intro c hc
  rw [showNat_eq] at hc
  exact isAsciiDigit_of_isDigit (Nat.isDigit_of_mem_toDigits (by decide) (by decide) hc)

theorem digitVal_ascii {c : Char} (h : isAsciiDigit c = true) : digitVal c = some (c.toNat - 48) := by
  simp [digitVal, digitValU, h]

theorem digitVal_lt_ten {c : Char} (h : isAsciiDigit c = true) : c.toNat - 48 < 10 := by
  simp only [isAsciiDigit, Bool.and_eq_true, decide_eq_true_eq] at h
  have h2 : c.toNat ≤ 57 := h.2
  omega

/-- on ASCII digits, `digitsVal 10` is core's `Nat.ofDigitChars 10` -/
theorem digitsVal_eq_ofDigitChars : ∀ (l : Str) (acc : Nat), (∀ c ∈ l, isAsciiDigit c = true) →
    digitsVal 10 l acc = some (Nat.ofDigitChars 10 l acc) := by
  intro l
  induction l with
  | nil => intro acc _; simp [digitsVal, Nat.ofDigitChars]
  | cons c cs ih =>
    intro acc h
    have hc : isAsciiDigit c = true := h c (by simp)
    have hlt := digitVal_lt_ten hc
    simp only [digitsVal, digitVal_ascii hc, hlt, ↓reduceIte]
    rw [ih _ (fun x hx => h x (by simp [hx]))]
    simp [Nat.ofDigitChars_cons, Nat.mul_comm]

theorem digitsVal_showNat (n : Nat) : digitsVal 10 (showNat n) 0 = some n := by
  rw [digitsVal_eq_ofDigitChars _ _ (showNat_digits n), showNat_eq,
    Nat.ofDigitChars_toDigits (by decide) (by decide)]

theorem not_space_of_digit {c : Char} (h : isAsciiDigit c = true) : isAsciiSpace c = false := by
  have hs : c ≠ ' ' := ne_of_test h (by decide)
  simp only [isAsciiDigit, Bool.and_eq_true, decide_eq_true_eq] at h
  have h1 : 48 ≤ c.toNat := h.1
  have h2 : c.toNat ≤ 57 := h.2
  simp [isAsciiSpace, hs]
  omega

theorem dropUnderscores_cons {c : Char} (hne : c ≠ '_') (cs : Str) (b : Bool) :
    dropUnderscores (c :: cs) b = (dropUnderscores cs true).map (c :: ·) := by
  rw [dropUnderscores]
  · intro heq; exact hne heq

/-- digits-only text has no underscores to drop -/
theorem dropUnderscores_digits : ∀ (l : Str) (b : Bool), l ≠ [] ∨ b = true → (∀ c ∈ l, isAsciiDigit c = true) →
    dropUnderscores l b = some l := by
  intro l
  induction l with
  | nil => intro b hb _; cases hb with | inl h => exact absurd rfl h | inr h => simp [dropUnderscores, h]
  | cons c cs ih =>
    intro b _ h
    have hc : isAsciiDigit c = true := h c (by simp)
    have := ih true (Or.inr rfl) (fun x hx => h x (by simp [hx]))
    rw [dropUnderscores_cons (ne_of_test hc (by decide)), this]
    rfl

theorem dropWhile_space_digits : ∀ (l : Str), (∀ c ∈ l, isAsciiDigit c = true) → l.dropWhile isAsciiSpace = l := by
  intro l h
  cases l with
  | nil => rfl
  | cons c cs => simp [List.dropWhile, not_space_of_digit (h c (by simp))]

theorem stripC_digits (l : Str) (h : ∀ c ∈ l, isAsciiDigit c = true) : stripC l isAsciiSpace = l := by
  unfold stripC rstripC lstripC
  rw [dropWhile_space_digits l h]
  have : (l.reverse).dropWhile isAsciiSpace = l.reverse :=
    dropWhile_space_digits _ (fun c hc => h c (by simpa using hc))
  rw [this, List.reverse_reverse]

theorem splitSign_digit {c : Char} (hc : isAsciiDigit c = true) (cs : Str) : splitSign (c :: cs) = (false, c :: cs) := by
  have h1 : c ≠ '-' := ne_of_test hc (by decide)
  have h2 : c ≠ '+' := ne_of_test hc (by decide)
  unfold splitSign
  split
  · rename_i heq; injection heq with e1 _; exact absurd e1 h1
  · rename_i heq; injection heq with e1 _; exact absurd e1 h2
  · rfl

/-- `int(text)` of a non-empty run of ASCII digits is its decimal value -/
theorem pyIntBase_digits (l : Str) (hne : l ≠ []) (h : ∀ c ∈ l, isAsciiDigit c = true) :
    pyIntBase 10 l = (digitsVal 10 l 0).map fun v => (v : Int) := by
  unfold pyIntBase
  rw [stripC_digits l h]
  cases l with
  | nil => exact absurd rfl hne
  | cons c cs =>
    have hc : isAsciiDigit c = true := h c (by simp)
    have hd := dropUnderscores_digits (c :: cs) false (Or.inl (by simp)) h
    simp [splitSign_digit hc, hd]

/-- `int(text)` of a decimal text is core's `Nat.ofDigitChars` -/
theorem pyInt_digits {l : Str} (hne : l ≠ []) (h : ∀ c ∈ l, isAsciiDigit c = true) :
    pyInt l = .ok (Nat.ofDigitChars 10 l 0 : Nat) := by
  unfold pyInt
  rw [pyIntBase_digits l hne h, digitsVal_eq_ofDigitChars l 0 h]
  rfl

theorem pyInt_showNat (n : Nat) : pyInt (showNat n) = .ok (n : Int) := by
  rw [pyInt_digits (showNat_ne_nil n) (showNat_digits n), showNat_eq, Nat.ofDigitChars_ten_toDigits]

theorem digits_zeros_showNat (n k : Nat) : ∀ c ∈ List.replicate k '0' ++ showNat n, isAsciiDigit c = true := by
  intro c hc
  rcases List.mem_append.mp hc with h | h
  · rw [List.eq_of_mem_replicate h]; decide
  · exact showNat_digits n c h

/-- the decimal value of `str(n)` behind any number of zeros is n -/
theorem ofDigitChars_zeros_showNat (n k : Nat) : Nat.ofDigitChars 10 (List.replicate k '0' ++ showNat n) 0 = n := by
  simp [Nat.ofDigitChars_append, showNat_eq, Nat.ofDigitChars_ten_toDigits]

-- binary texts -------------------------------------------------------------------------------------------

theorem bits_toDigits (n : Nat) : ∀ c ∈ Nat.toDigits 2 n, c = '0' ∨ c = '1' := by
  induction n using Nat.strongRecOn with
  | _ n ih =>
    rw [Nat.toDigits_eq_if (by decide)]
    split
    · have : n = 0 ∨ n = 1 := by omega
      rcases this with rfl | rfl <;> simp <;> decide
    · intro c hc
      rcases List.mem_append.mp hc with h | h
      · exact ih (n / 2) (by omega) c h
      · have : n % 2 = 0 ∨ n % 2 = 1 := by omega
        rcases this with h2 | h2 <;> simp [h2] at h <;> subst h <;> decide

theorem digitsVal_bits : ∀ (l : Str) (acc : Nat), (∀ c ∈ l, c = '0' ∨ c = '1') →
    digitsVal 2 l acc = some (Nat.ofDigitChars 2 l acc)
  | [], _, _ => rfl
  | c :: cs, acc, h => by
    have ih := digitsVal_bits cs (acc * 2 + (c.toNat - 48)) fun x hx => h x (by simp [hx])
    rcases h c (by simp) with rfl | rfl <;>
      simpa [digitsVal, digitVal, digitValU, isAsciiDigit, Nat.ofDigitChars_cons, Nat.mul_comm] using ih

/-- `int(text, 2)` of a non-empty text of binary digits -/
theorem pyInt2_bits {l : Str} (hne : l ≠ []) (h : ∀ c ∈ l, c = '0' ∨ c = '1') :
    pyInt2 l = .ok (Nat.ofDigitChars 2 l 0 : Nat) := by
  have hd : ∀ c ∈ l, isAsciiDigit c = true := fun c hc => by rcases h c hc with rfl | rfl <;> decide
  have hp : stripBinPrefix l = l := by
    unfold stripBinPrefix
    split
    · rcases h 'b' (by simp) with h | h <;> cases h
    · rcases h 'B' (by simp) with h | h <;> cases h
    · rfl
  cases l with
  | nil => exact absurd rfl hne
  | cons c cs =>
    simp [pyInt2, pyIntBase, stripC_digits _ hd, splitSign_digit (hd c (by simp)), hp,
      dropUnderscores_digits (c :: cs) false (.inl (by simp)) hd, digitsVal_bits _ 0 h]

end Py
