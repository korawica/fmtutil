import FmtModel.Py.Re
/-
  FmtModel.Lemmas.ReHead — the "greedy-first" calculus: `Hd r tot s c s' c'` says that the
  *preferred* (first, in CPython's backtracking order) way for `r` to consume a prefix of `s`
  leaves `s'` unread with captures `c'`.  If every stage of a concatenation has a preferred
  continuation, the preferred path of the whole pattern is their composition — no backtracking
  happens, whatever else might also match.  This is what `re.match` / `re.search` return.

  Every rule is one `simp` from `hd_iff` (the preferred result is the head of the result list) and the
  defining equation of `ms`; `+`, `?` and `{m,n}` are not primitive: `ms_plus`, `ms_opt`, `ms_rep_*` unfold
  them into `seq` / `alt` / `eps`, so their rules are the rules of those.
-/
namespace Py

def Hd (r : RE) (tot : Nat) (s : Str) (c : Caps) (s' : Str) (c' : Caps) : Prop :=
  (ms r tot s c).head? = some (s', c')

variable {a b : RE} {tot : Nat} {s s' s1 s2 : Str} {c c' c1 c2 : Caps} {items : List CItem} {neg : Bool}

theorem hd_iff : Hd a tot s c s' c' ↔ ∃ rest, ms a tot s c = (s', c') :: rest := List.head?_eq_some_iff

theorem head?_flatMap_cons {α β} (f : α → List β) (x : α) (xs : List α) (y : β) (ys : List β)
    (h : f x = y :: ys) : ((x :: xs).flatMap f).head? = some y := by
  simp [List.flatMap_cons, h]

theorem hd_seq (ha : Hd a tot s c s1 c1) (hb : Hd b tot s1 c1 s2 c2) : Hd (.seq a b) tot s c s2 c2 := by
  obtain ⟨_, ha⟩ := hd_iff.mp ha
  obtain ⟨_, hb⟩ := hd_iff.mp hb
  simp [Hd, ms, ha, hb]

theorem hd_eps (tot : Nat) (s : Str) (c : Caps) : Hd .eps tot s c s c := by simp [Hd, ms]

/-- a one-character range holds that character only -/
theorem has_single (c x : Char) : CItem.has x (.range c c) = (x == c) := by
  by_cases h : x = c
  · subst h; simp [CItem.has]
  · simp only [CItem.has, beq_false_of_ne h, Bool.and_eq_false_iff, decide_eq_false_iff_not]
    exact (Decidable.em (c ≤ x)).symm.imp_right fun h1 h2 => h (Char.le_antisymm h2 h1)

theorem ms_cls_ok {x : Char} (h : inCls items neg x = true) (tot : Nat) (xs : Str) (c : Caps) :
    ms (.cls items neg) tot (x :: xs) c = [(xs, c)] := by
  simp [ms, h]

theorem hd_cls {items : List CItem} {neg : Bool} {x : Char} (h : inCls items neg x = true)
    (tot : Nat) (xs : Str) (c : Caps) : Hd (.cls items neg) tot (x :: xs) c xs c := by
  simp [Hd, ms, h]

theorem ms_cls_fail {items : List CItem} {neg : Bool} {x : Char} (h : inCls items neg x = false)
    (tot : Nat) (xs : Str) (c : Caps) : ms (.cls items neg) tot (x :: xs) c = [] := by
  simp [ms, h]

theorem ms_cls_nil (items : List CItem) (neg : Bool) (tot : Nat) (c : Caps) : ms (.cls items neg) tot [] c = [] := by
  simp [ms]

theorem hd_alt_left {a b : RE} {tot : Nat} {s s' : Str} {c c' : Caps} (h : Hd a tot s c s' c') :
    Hd (.alt a b) tot s c s' c' := by
  obtain ⟨_, h⟩ := hd_iff.mp h
  simp [Hd, ms, h]

theorem hd_alt_right {a b : RE} {tot : Nat} {s s' : Str} {c c' : Caps} (ha : ms a tot s c = [])
    (h : Hd b tot s c s' c') : Hd (.alt a b) tot s c s' c' := by
  unfold Hd at *
  simp [ms, ha, h]

theorem hd_grp {nm : Str} (h : Hd a tot s c s' c') :
    Hd (.grp nm a) tot s c s' ((nm, s.take (s.length - s'.length)) :: c') := by
  obtain ⟨_, h⟩ := hd_iff.mp h
  simp [Hd, ms, h]

theorem hd_cgrp {a : RE} {tot : Nat} {s s' : Str} {c c' : Caps} (h : Hd a tot s c s' c') :
    Hd (.cgrp a) tot s c s' c' := by
  unfold Hd at *; simpa [ms] using h

theorem hd_bol (h : s.length = tot) (c : Caps) : Hd .bol tot s c s c := by
  simp [Hd, ms, h]

theorem hd_eos (tot : Nat) (c : Caps) : Hd .eos tot [] c [] c := by simp [Hd, ms]
theorem hd_eol (tot : Nat) (c : Caps) : Hd .eol tot [] c [] c := by simp [Hd, ms]

-- derived quantifiers ---------------------------------------------------------------------------------

theorem ms_plus (a : RE) (t : Nat) (s : Str) (c : Caps) : ms (.plus a) t s c = ms (.seq a (.star a)) t s c := by
  simp only [ms]

theorem ms_opt (a : RE) (t : Nat) (s : Str) (c : Caps) : ms (.rep 0 1 a) t s c = ms (.alt a .eps) t s c := by
  simp [ms, repL]

theorem ms_rep_zero (a : RE) (t : Nat) (s : Str) (c : Caps) : ms (.rep 0 0 a) t s c = ms .eps t s c := by
  simp [ms, repL]

theorem ms_rep_succ (m n : Nat) (a : RE) (t : Nat) (s : Str) (c : Caps) :
    ms (.rep (m + 1) (n + 1) a) t s c = ms (.seq a (.rep m n a)) t s c := by
  simp [ms, repL]

/-- `a?` takes `a` when `a` has a preferred match -/
theorem hd_opt_some {a : RE} {tot : Nat} {s s' : Str} {c c' : Caps} (h : Hd a tot s c s' c') :
    Hd (.rep 0 1 a) tot s c s' c' := by
  unfold Hd; rw [ms_opt]; exact hd_alt_left h

/-- `a?` takes nothing when `a` cannot match -/
theorem hd_opt_none {a : RE} {tot : Nat} {s : Str} {c : Caps} (h : ms a tot s c = []) :
    Hd (.rep 0 1 a) tot s c s c := by
  unfold Hd; rw [ms_opt]; exact hd_alt_right h (hd_eps ..)

-- runs of a character class --------------------------------------------------------------------------

/-- greedy star over a character class, with any fuel that suffices: on `w ++ rest` with every character of `w`
    in the class and `rest` not starting with one, the preferred match consumes exactly `w` -/
theorem starL_run (tot : Nat) (c : Caps) :
    ∀ (w : Str) (rest : Str) (f : Nat), (∀ x ∈ w, inCls items neg x = true) →
      (∀ y ys, rest = y :: ys → inCls items neg y = false) → (w ++ rest).length ≤ f →
      (starL (ms (.cls items neg) tot) f (w ++ rest) c).head? = some (rest, c)
  | [], rest, f, _, hr, _ => by
    cases f with
    | zero => simp [starL]
    | succ f =>
      cases rest with
      | nil => simp [starL, ms_cls_nil]
      | cons y ys => simp [starL, ms_cls_fail (hr y ys rfl)]
  | x :: xs, rest, f, hw, hr, hf => by
    cases f with
    | zero => simp at hf
    | succ f =>
      have hl : (xs ++ rest).length ≤ f := by simp at hf ⊢; omega
      obtain ⟨_, this⟩ := List.head?_eq_some_iff.mp (starL_run tot c xs rest f (fun y hy => hw y (by simp [hy])) hr hl)
      simp [starL, ms_cls_ok (hw x (by simp)), this]

theorem hd_star_run (tot : Nat) (w rest : Str) (c : Caps)
    (hw : ∀ x ∈ w, inCls items neg x = true) (hr : ∀ y ys, rest = y :: ys → inCls items neg y = false) :
    Hd (.star (.cls items neg)) tot (w ++ rest) c rest c := by
  unfold Hd
  rw [ms]
  exact starL_run tot c w rest _ hw hr (Nat.le_refl _)

theorem hd_plus_run {items : List CItem} {neg : Bool} (tot : Nat) (x : Char) (w rest : Str) (c : Caps)
    (hx : inCls items neg x = true) (hw : ∀ y ∈ w, inCls items neg y = true)
    (hr : ∀ y ys, rest = y :: ys → inCls items neg y = false) :
    Hd (.plus (.cls items neg)) tot (x :: w ++ rest) c rest c := by
  unfold Hd; rw [ms_plus]; exact hd_seq (hd_cls hx ..) (hd_star_run tot w rest c hw hr)

/-- `[…]{n}` takes a run of exactly `n` class characters -/
theorem hd_rep_run (tot : Nat) (rest : Str) (c : Caps) : ∀ (w : Str) (n : Nat),
    (∀ x ∈ w, inCls items neg x = true) → w.length = n → Hd (.rep n n (.cls items neg)) tot (w ++ rest) c rest c
  | [], _, _, rfl => by unfold Hd; rw [List.length_nil, ms_rep_zero]; exact hd_eps ..
  | x :: xs, _, hw, rfl => by
    unfold Hd; rw [List.length_cons, ms_rep_succ]
    exact hd_seq (hd_cls (hw x (by simp)) ..) (hd_rep_run tot rest c xs _ (fun y hy => hw y (by simp [hy])) rfl)

theorem take_append_len {α} (w rest : List α) : (w ++ rest).take ((w ++ rest).length - rest.length) = w := by
  simp

-- the whole subject --------------------------------------------------------------------------------------

/-- `re.search` returns the preferred match at offset 0 when there is one -/
theorem search_of_hd (h : Hd a s.length s [] s' c') : search a s = some (0, s', c') := by
  unfold Hd at h
  cases s <;> simp_all [search, searchFrom, matchAt]

/-- `^(?P<nm>body)\Z`: the shape of a compiled single-directive format -/
def wholeGrp (nm : Str) (body : RE) : RE := .seq .bol (.seq (.grp nm body) .eos)

theorem search_wholeGrp {nm : Str} (h : Hd a s.length s [] [] []) :
    search (wholeGrp nm a) s = some (0, [], [(nm, s)]) :=
  search_of_hd (hd_seq (hd_bol rfl []) (hd_seq (by simpa using hd_grp (nm := nm) h) (hd_eos ..)))

theorem groupdict_wholeGrp {nm : Str} (hn : a.names = []) (s : Str) :
    groupdict (wholeGrp nm a) [(nm, s)] = [(nm, some s)] := by
  simp [groupdict, wholeGrp, RE.names, hn, alookup]

end Py
