import FmtModel.Ver
import FmtModel.Lemmas.OrderKey
import FmtModel.Lemmas.Basic
/-
  FmtModel.Lemmas.VerOrder — the comparison of each version class is the lexicographic
  `compare` of its structured key.
-/
namespace Ver
open Py Std

theorem faithE_letter : FaithE encLetter :=
  faithE_tup (faithS_cons faithE_str (faithS_single faithE_int))

theorem faithE_release : FaithE encRelease := faithE_tup (faithS_list faithE_nat)

theorem plain_letter (p : Str × Int) : Plain (encLetter p) := plain_tup _

theorem faithE_letterK : FaithE (Sent.enc encLetter) := faithE_sent faithE_letter plain_letter

theorem faithE_locItem : FaithE encLocItem :=
  faithE_tup (faithS_cons (faithE_sent faithE_int plain_int) (faithS_single faithE_str))

theorem faithE_local : FaithE encLocal := faithE_tup (faithS_list faithE_locItem)

theorem faithE_localK : FaithE (Sent.enc encLocal) := faithE_sent faithE_local (fun _ => plain_tup _)

theorem faithS_baseKey :
    FaithS (fun k : BaseKey => PVs.cons (.int k.1) (.cons (.int k.2.1) (.cons (.int k.2.2) .nil))) :=
  faithS_cons faithE_nat (faithS_cons faithE_nat (faithS_single faithE_nat))

theorem faithS_semKey :
    FaithS (fun k : SemKey => PVs.cons (encRelease k.1) (.cons (Sent.enc encLetter k.2) .nil)) :=
  faithS_cons faithE_release (faithS_single faithE_letterK)

theorem faithS_pkgKey :
    FaithS (fun k : PkgKey =>
      PVs.cons (.int k.1) (.cons (encRelease k.2.1) (.cons (Sent.enc encLetter k.2.2.1)
        (.cons (Sent.enc encLetter k.2.2.2.1) (.cons (Sent.enc encLetter k.2.2.2.2.1)
          (.cons (Sent.enc encLocal k.2.2.2.2.2) .nil)))))) :=
  faithS_cons faithE_nat (faithS_cons faithE_release (faithS_cons faithE_letterK
    (faithS_cons faithE_letterK (faithS_cons faithE_letterK (faithS_single faithE_localK)))))

/-- the comparison key of an object as one sum type, so that the three classes share theorems -/
inductive AKey where
  | base (k : BaseKey)
  | sem (k : SemKey)
  | pkg (k : PkgKey)

def akey (o : Obj) : R AKey :=
  match o.cls with
  | .base => .ok (.base (baseKey o))
  | .sem => (semKey o).map .sem
  | .pkg => (pkgKey o).map .pkg

def AKey.cls : AKey → Cls
  | .base _ => .base
  | .sem _ => .sem
  | .pkg _ => .pkg

def AKey.enc : AKey → PV
  | .base k => encBaseKey k
  | .sem k => encSemKey k
  | .pkg k => encPkgKey k

def AKey.rank : AKey → Option BaseKey × Option SemKey × Option PkgKey
  | .base k => (some k, none, none)
  | .sem k => (none, some k, none)
  | .pkg k => (none, none, some k)

/-- keys of one class compare as that class's keys; keys of different classes never meet, and are
    ordered (base below sem below pkg) only so that the order laws hold without a side condition -/
instance : Ord AKey := ⟨compareOn AKey.rank⟩

instance : TransOrd AKey := inferInstanceAs (TransCmp (compareOn AKey.rank))

instance : LawfulEqOrd AKey :=
  lawfulEqCmp_compareOn (f := AKey.rank) fun a b => by cases a <;> cases b <;> simp [AKey.rank]

theorem compare_base (a b : BaseKey) : compare (AKey.base a) (.base b) = compare a b :=
  Ordering.then_eq (o := compare a b)
theorem compare_sem (a b : SemKey) : compare (AKey.sem a) (.sem b) = compare a b :=
  Ordering.then_eq (o := compare a b)

theorem key_eq_akey (o : Obj) : key o = (akey o).map AKey.enc := by
  unfold key akey
  cases o.cls with
  | base => rfl
  | sem => cases semKey o <;> rfl
  | pkg => cases pkgKey o <;> rfl

theorem akey_cls {o : Obj} {k : AKey} (h : akey o = .ok k) : k.cls = o.cls := by
  unfold akey at h
  cases hc : o.cls <;> simp only [hc, Except.map_eq_ok, Except.ok.injEq] at h
  · subst h; rfl
  · obtain ⟨_, _, rfl⟩ := h; rfl
  · obtain ⟨_, _, rfl⟩ := h; rfl

theorem pvCmp_akey {ka kb : AKey} (h : ka.cls = kb.cls) : pvCmp ka.enc kb.enc = .ok (ordInt (compare ka kb)) := by
  cases ka <;> cases kb <;> first | cases h | skip
  · exact compare_base .. ▸ pvCmp_tup faithS_baseKey ..
  · exact compare_sem .. ▸ pvCmp_tup faithS_semKey ..
  · exact pvCmp_tup faithS_pkgKey ..

/-- **the comparison theorem**: for two objects of one class whose keys exist, `compare` never
    raises and returns the sign of the lexicographic comparison of the structured keys -/
theorem vcompare_obj {a b : Obj} {ka kb : AKey} (hc : a.cls = b.cls)
    (ha : akey a = .ok ka) (hb : akey b = .ok kb) :
    vcompare a (.obj b) = .ok (ordInt (compare ka kb)) := by
  simp only [vcompare, coerce, hc, ↓reduceIte, key_eq_akey, ha, hb, Except.ok_bind, Except.map_ok]
  exact pvCmp_akey ((akey_cls ha).trans (hc.trans (akey_cls hb).symm))

/-- `compare` returned, so both keys exist -/
theorem akey_of_vcompare {a b : Obj} {c : Int} (h : vcompare a (.obj b) = .ok c) :
    ∃ ka kb, akey a = .ok ka ∧ akey b = .ok kb := by
  simp only [vcompare, coerce, key_eq_akey, Except.bind_eq_ok, Except.map_eq_ok] at h
  obtain ⟨b', hb', _, ⟨ka, hka, _⟩, _, ⟨kb, hkb, _⟩, _⟩ := h
  split at hb'
  · cases hb'; exact ⟨ka, kb, hka, hkb⟩
  · cases hb'

/-- what each operator answers for a three-way result -/
def opHolds : Op → Ordering → Bool
  | .eq, o => o == .eq
  | .ne, o => o != .eq
  | .lt, o => o == .lt
  | .le, o => o != .gt
  | .gt, o => o == .gt
  | .ge, o => o != .lt

/-- the six operators read one three-way result -/
theorem richCmp_sign {a b : Obj} {o : Ordering} (h : vcompare a (.obj b) = .ok (ordInt o)) (op : Op) :
    richCmp op a (.obj b) = .ok (opHolds op o) := by
  simp only [richCmp, h, Except.map_ok]
  cases o <;> cases op <;> rfl

section
variable {a b : Obj} {ka kb : AKey} (hc : a.cls = b.cls) (ha : akey a = .ok ka) (hb : akey b = .ok kb)
include hc ha hb

/-- every operator of `a ∘ b` is defined (no exception) and is read off the comparison of the keys -/
theorem richCmp_obj (op : Op) : richCmp op a (.obj b) = .ok (opHolds op (compare ka kb)) :=
  richCmp_sign (vcompare_obj hc ha hb) op

theorem richCmp_lt_iff : richCmp .lt a (.obj b) = .ok true ↔ compare ka kb = .lt := by
  simp [richCmp_obj hc ha hb, opHolds]

theorem richCmp_eq_iff : richCmp .eq a (.obj b) = .ok true ↔ compare ka kb = .eq := by
  simp [richCmp_obj hc ha hb, opHolds]
end

/-- the key of a semantic version: its release, then the pre-release tag or `Inf` -/
theorem akey_sem {o : Obj} {k : AKey} (ho : o.cls = .sem) (h : akey o = .ok k) :
    ∃ p, k = .sem (necessaryRelease [o.major, o.minor, o.patch], p)
      ∧ if truthyStr o.pre then ∃ l, p = .val l else p = .inf := by
  simp only [akey, ho, Except.map_eq_ok] at h
  obtain ⟨k', h, rfl⟩ := h
  unfold semKey at h
  split at h <;> rename_i ht <;> simp only [Except.map_eq_ok, Except.bind_eq_ok, Except.pure_eq_ok, Except.ok.injEq, Except.ok.injEq] at h
  · obtain ⟨_, ⟨l, _, rfl⟩, rfl⟩ := h; exact ⟨_, rfl, if_pos ht ▸ ⟨l, rfl⟩⟩
  · obtain ⟨_, rfl, rfl⟩ := h; exact ⟨_, rfl, if_neg ht ▸ rfl⟩

/-- a packaging version without pre/post/dev/local segments is a final release -/
theorem pkgKey_final {o : Obj} (h1 : o.pre = none) (h2 : o.post = none) (h3 : o.dev = none) (h4 : o.loc = none) :
    pkgKey o = .ok (o.epoch, necessaryRelease [o.major, o.minor, o.patch], Sent.inf, Sent.ninf, Sent.inf, Sent.ninf) := by
  simp [pkgKey, pkgPre, pkgPost, pkgDev, pkgLoc, truthyStr, h1, h2, h3, h4]

theorem hashRepr_eq_key (o : Obj) : hashRepr o = key o := by
  unfold hashRepr key
  cases o.cls <;> rfl


theorem argInt_nat (n : Nat) : argInt (natArg n) = .ok (n : Int) := rfl
theorem argIntOr0_nat (n : Nat) : argIntOr0 (natArg n) = .ok (n : Int) := by
  unfold argIntOr0 natArg Arg.truthy
  by_cases h : n = 0
  · subst h; rfl
  · have : ((n : Int) != 0) = true := by simp; omega
    simp [this, argInt]
theorem nonNeg_nat (n : Nat) : nonNeg (n : Int) = .ok n := by
  unfold nonNeg
  have : ¬ ((n : Int) < 0) := by omega
  simp [this]
theorem argOptStr_optArg (p : Option Str) : argOptStr (optArg p) = p := by cases p <;> rfl

theorem initBase_nat (a b c : Nat) : initBase (natArg a) (natArg b) (natArg c) = .ok (a, b, c) := by
  simp [initBase, argInt_nat, argIntOr0_nat, nonNeg_nat]

/-- `cls(*b.to_tuple())` has the key of `b` -/
theorem construct_toArgs (b : Obj) :
    ∃ b', construct b.cls b.toArgs = .ok b' ∧ b'.cls = b.cls ∧ akey b' = akey b := by
  cases hc : b.cls with
  | base =>
    refine ⟨{ cls := .base, major := b.major, minor := b.minor, patch := b.patch }, ?_, rfl, ?_⟩
    · simp [construct, Obj.toArgs, hc, mkBase, initBase_nat]
    · simp [akey, hc, baseKey]
  | sem =>
    refine ⟨{ cls := .sem, major := b.major, minor := b.minor, patch := b.patch, pre := b.pre, build := b.build }, ?_, rfl, ?_⟩
    · simp [construct, Obj.toArgs, hc, mkSem, initBase_nat, argOptStr_optArg]
    · simp [akey, hc, semKey]
  | pkg =>
    refine ⟨{ cls := .pkg, epoch := b.epoch, major := b.major, minor := b.minor, patch := b.patch,
              pre := b.pre, post := b.post, dev := b.dev, loc := b.loc }, ?_, rfl, ?_⟩
    · simp [construct, Obj.toArgs, hc, mkPkg, initBase_nat, argIntOr0_nat, nonNeg_nat, argOptStr_optArg]
    · simp [akey, hc, pkgKey, pkgPre, pkgPost, pkgDev, pkgLoc]

theorem vcompare_congr {a b b' : Obj} (hc : b'.cls = b.cls) (hk : akey b' = akey b) :
    vcompare a (.obj b') = vcompare a (.obj b) := by
  simp only [vcompare, coerce, hc]
  by_cases h : b.cls = a.cls <;> simp [h, key_eq_akey b', key_eq_akey b, hk]


theorem mkBase_cls {a b c : Arg} {o : Obj} (h : mkBase a b c = .ok o) : o.cls = .base := by
  simp only [mkBase, Except.bind_eq_ok, Except.pure_eq_ok, Except.ok.injEq, Except.ok.injEq] at h
  obtain ⟨_, _, rfl⟩ := h; rfl

theorem mkSem_cls {a b c p q : Arg} {o : Obj} (h : mkSem a b c p q = .ok o) : o.cls = .sem := by
  simp only [mkSem, Except.bind_eq_ok, Except.pure_eq_ok, Except.ok.injEq, Except.ok.injEq] at h
  obtain ⟨_, _, rfl⟩ := h; rfl

theorem mkPkg_cls {e a b c p q r s : Arg} {o : Obj} (h : mkPkg e a b c p q r s = .ok o) : o.cls = .pkg := by
  simp only [mkPkg, Except.bind_eq_ok, Except.pure_eq_ok, Except.ok.injEq, Except.ok.injEq] at h
  obtain ⟨_, _, _, _, _, _, rfl⟩ := h; rfl

/-- a parsed object has the class it was parsed as -/
theorem parse_cls {c : Cls} {s : Str} {opt : Bool} {w : Obj} (h : parse c s opt = .ok w) : w.cls = c := by
  unfold parse at h
  split at h
  · simp at h
  · split at h
    · simp at h
    · cases c with
      | base => exact mkBase_cls h
      | sem => exact mkSem_cls h
      | pkg => exact mkPkg_cls h

end Ver
