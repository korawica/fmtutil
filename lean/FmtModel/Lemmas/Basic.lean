import FmtModel.Py.Basic
/-
  FmtModel.Lemmas.Basic — what proofs in every region use: the model's `Except` monad under `simp`
  (`do` blocks compute on `ok` / `error`; a block that returned `ok` is inverted one bind at a time),
  and the remark that a Boolean test which tells two values apart proves them different.
-/
namespace Except
variable {ε α β : Type}

@[simp] theorem ok_bind (a : α) (f : α → Except ε β) : (Except.ok a >>= f) = f a := rfl
@[simp] theorem error_bind (e : ε) (f : α → Except ε β) : (Except.error e >>= f) = .error e := rfl
@[simp] theorem pure_eq_ok (a : α) : (pure a : Except ε α) = .ok a := rfl
@[simp] theorem map_ok (f : α → β) (a : α) : (Except.ok a : Except ε α).map f = .ok (f a) := rfl
@[simp] theorem map_error (f : α → β) (e : ε) : (Except.error e : Except ε α).map f = .error e := rfl

theorem bind_eq_ok {x : Except ε α} {f : α → Except ε β} {b : β} :
    (x >>= f) = .ok b ↔ ∃ a, x = .ok a ∧ f a = .ok b := by
  cases x <;> simp

theorem map_eq_ok {x : Except ε α} {f : α → β} {b : β} : x.map f = .ok b ↔ ∃ a, x = .ok a ∧ f a = b := by
  cases x <;> simp

end Except

/-- `mapM` in `Except` returns iff every call returns, and then it returns the list of their values -/
theorem List.mapM_eq_ok {ε β : Type} {α : Type u} [Inhabited β] {f : α → Except ε β} {l : List α} {r : List β} :
    l.mapM f = .ok r ↔ (∀ a ∈ l, ∃ b, f a = .ok b) ∧ r = l.map fun a => (f a).toOption.getD default := by
  induction l generalizing r with
  | nil => simp [eq_comm]
  | cons a l ih =>
    simp only [List.mapM_cons, Except.bind_eq_ok, Except.pure_eq_ok, Except.ok.injEq, ih, List.forall_mem_cons, List.map_cons]
    constructor
    · rintro ⟨b, hb, _, ⟨hl, rfl⟩, rfl⟩
      exact ⟨⟨⟨b, hb⟩, hl⟩, by simp [hb, Except.toOption]⟩
    · rintro ⟨⟨⟨b, hb⟩, hl⟩, rfl⟩
      exact ⟨b, hb, _, ⟨hl, rfl⟩, by simp [hb, Except.toOption]⟩

theorem ne_of_test {α : Type} {p : α → Bool} {a b : α} (ha : p a = true) (hb : p b = false) : a ≠ b :=
  fun e => by simp [e, hb] at ha
