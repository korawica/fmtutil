import FmtModel.Lemmas.VerOrder
/-
  C10 — version match expressions denote the documented version sets.

  Quantifier: all versions `v`, `w` of one class whose comparison key exists (numbers unbounded),
  all nine operators and the bare form; every expression whose first character is neither an
  operator character nor a digit.  The operator tables (`Gen.match_*`) are regenerated from the
  source, so the theorems are re-checked against what `match` says now.
-/
namespace C10
open Ver Py Std

-- the expression is split into (operator, version text) -------------------------------------------

/-- `validateExprMatch` on a non-empty expression: three table lookups in turn -/
theorem validate_cons (c : Char) (rest : Str) :
    validateExprMatch (c :: rest) =
      if Gen.match_ops2.contains (c :: rest.take 1) then .ok (c :: rest.take 1, rest.drop 1)
      else if Gen.match_ops1.contains [c] then .ok ([c], rest)
      else if Gen.match_bare_first.contains c then .ok ("==".toList, c :: rest)
      else .error .pyValue := rfl

/-- a two-character operator is recognised whatever follows -/
theorem C10_split_two (op : Str) (hop : op ∈ Gen.match_ops2) (hlen : op.length = 2) (m : Str) :
    validateExprMatch (op ++ m) = .ok (op, m) := by
  rw [validateExprMatch, ← hlen, List.take_left, List.drop_left]
  exact if_pos (List.contains_iff_mem.2 hop)

theorem ops_no_digit : ∀ op ∈ Gen.match_ops2 ++ Gen.match_ops1, ∀ c ∈ op, isAsciiDigit c = false := by decide

theorem bare_digits : ∀ i < 10, Char.ofNat (48 + i) ∈ Gen.match_bare_first := by decide

/-- no operator contains a digit -/
theorem digit_not_op {d : Char} (hd : isAsciiDigit d = true) {op : Str} (h : d ∈ op) :
    Gen.match_ops2.contains op = false ∧ Gen.match_ops1.contains op = false := by
  have := fun hop => Bool.false_ne_true ((ops_no_digit op hop d h).symm.trans hd)
  simpa [not_or] using this

/-- every digit may start a bare version -/
theorem digit_bare {d : Char} (hd : isAsciiDigit d = true) : Gen.match_bare_first.contains d = true := by
  have h : 48 ≤ d.toNat ∧ d.toNat ≤ 57 := (by simpa [isAsciiDigit] using hd : '0' ≤ d ∧ d ≤ '9')
  have := bare_digits (d.toNat - 48) (by omega)
  rwa [show 48 + (d.toNat - 48) = d.toNat by omega, Char.ofNat_toNat, ← List.contains_iff_mem] at this

/-- a one-character operator in front of a version (first character a digit) -/
theorem C10_split_one (c d : Char) (hc : [c] ∈ Gen.match_ops1) (hd : isAsciiDigit d = true) (rest : Str) :
    validateExprMatch (c :: d :: rest) = .ok ([c], d :: rest) := by
  have h2 : Gen.match_ops2.contains [c, d] = false := (digit_not_op hd (by simp)).1
  rw [validate_cons, show Gen.match_ops2.contains (c :: (d :: rest).take 1) = false from h2, List.contains_iff_mem.2 hc]
  rfl

/-- a bare version means `==` -/
theorem C10_split_bare (d : Char) (hd : isAsciiDigit d = true) (rest : Str) :
    validateExprMatch (d :: rest) = .ok ("==".toList, d :: rest) := by
  rw [validate_cons, (digit_not_op hd List.mem_cons_self).1, (digit_not_op hd (List.mem_singleton_self d)).2, digit_bare hd]
  rfl

/-- malformed: the empty expression raises ValueError instead of answering -/
theorem C10_malformed_empty (v : Obj) : matchExpr v [] = .error .pyValue := rfl

/-- malformed: an expression that starts with neither an operator character nor a digit
    (an unknown operator such as `=1.2.3`, a leading space, a letter) raises ValueError -/
theorem C10_malformed_first (v : Obj) (c : Char) (rest : Str)
    (h2 : Gen.match_ops2.contains ((c :: rest).take 2) = false)
    (h1 : Gen.match_ops1.contains [c] = false) (hd : Gen.match_bare_first.contains c = false) :
    matchExpr v (c :: rest) = .error .pyValue := by
  rw [matchExpr, validate_cons, show Gen.match_ops2.contains (c :: rest.take 1) = false from h2, h1, hd]
  rfl

/-- `matchCore` once the operator is found in the table -/
theorem core_eq (v w : Obj) {op : Str} {p : List Int} (hp : possibility op = some p) (c : Int) :
    matchCore v op w c =
      if Gen.match_tilde_ops.contains op then do
        let c2 ← vcompare v (.obj (tildePair v.cls w))
        pure (p.contains c && c2 < 0)
      else if op == ['^'] then do
        let c2 ← vcompare v (.obj (caretPair v.cls w))
        pure (p.contains c && c2 < 0)
      else pure (p.contains c) := by
  simp only [matchCore, hp]
  rfl

-- the operator semantics -----------------------------------------------------------------------------

/-- how `match` spells each comparison operator -/
def opName : Op → Str
  | .gt => ">".toList | .lt => "<".toList | .eq => "==".toList
  | .ne => "!=".toList | .ge => ">=".toList | .le => "<=".toList

/-- the table of possibilities lists, for each comparison operator, the signs for which it holds -/
theorem opName_table : ∀ op ∈ [Op.gt, .lt, .eq, .ne, .ge, .le], ∀ o ∈ [Ordering.lt, .eq, .gt],
    (possibility (opName op)).map (·.contains (ordInt o)) = some (opHolds op o)
      ∧ Gen.match_tilde_ops.contains (opName op) = false ∧ (opName op == ['^']) = false := by
  decide +kernel

section Ops
variable {v w : Obj} {kv kw : AKey}

/-- each comparison operator of `match` is the rich comparison, whatever sign `compare` returned -/
theorem core_cmp (op : Op) {o : Ordering} (hcmp : vcompare v (.obj w) = .ok (ordInt o)) :
    matchCore v (opName op) w (ordInt o) = richCmp op v (.obj w) := by
  obtain ⟨hp, ht, hk⟩ := opName_table op (by cases op <;> decide) o (by cases o <;> decide)
  cases hq : possibility (opName op) with
  | none => simp [hq] at hp
  | some p =>
    rw [core_eq v w hq, ht, hk, richCmp_sign hcmp]
    exact congrArg Except.ok (by simpa [hq] using hp)

/-- `>`, `<`, `==`, `!=`, `>=`, `<=` coincide with the comparison operators -/
theorem C10_compare_ops (hc : v.cls = w.cls) (hv : akey v = .ok kv) (hw : akey w = .ok kw) :
    ∃ c, vcompare v (.obj w) = .ok c
      ∧ matchCore v ">".toList w c = richCmp .gt v (.obj w)
      ∧ matchCore v "<".toList w c = richCmp .lt v (.obj w)
      ∧ matchCore v "==".toList w c = richCmp .eq v (.obj w)
      ∧ matchCore v "!=".toList w c = richCmp .ne v (.obj w)
      ∧ matchCore v ">=".toList w c = richCmp .ge v (.obj w)
      ∧ matchCore v "<=".toList w c = richCmp .le v (.obj w) := by
  have hcmp := vcompare_obj hc hv hw
  exact ⟨_, hcmp, core_cmp .gt hcmp, core_cmp .lt hcmp, core_cmp .eq hcmp, core_cmp .ne hcmp,
    core_cmp .ge hcmp, core_cmp .le hcmp⟩

/-- the bounds `^` and `~=` compare against always have a key -/
theorem akey_mkPlain (c : Cls) (a b d : Nat) : ∃ k, akey (mkPlain c a b d) = .ok k := by
  cases c
  · exact ⟨_, rfl⟩
  · exact ⟨.sem (necessaryRelease [a, b, d], Sent.inf), rfl⟩
  · exact ⟨_, congrArg (Except.map AKey.pkg) (pkgKey_final (o := mkPlain .pkg a b d) rfl rfl rfl rfl)⟩

theorem cls_mkPlain (c : Cls) (a b d : Nat) : (mkPlain c a b d).cls = c := rfl

/-- the two bounded operators: `w <= v < b` for a plain bound `b` of the class of `v` -/
theorem bounded (hc : v.cls = w.cls) (hv : akey v = .ok kv) (hw : akey w = .ok kw)
    {b : Obj} (hb : ∃ x y z, b = mkPlain v.cls x y z) :
    ∃ c ge lt, vcompare v (.obj w) = .ok c
      ∧ richCmp .ge v (.obj w) = .ok ge ∧ richCmp .lt v (.obj b) = .ok lt
      ∧ (do let c2 ← vcompare v (.obj b); pure ([0, 1].contains c && c2 < 0)) = .ok (ge && lt) := by
  obtain ⟨x, y, z, rfl⟩ := hb
  have hcmp := vcompare_obj hc hv hw
  obtain ⟨kb, hkb⟩ := akey_mkPlain v.cls x y z
  have hcmp2 := vcompare_obj (cls_mkPlain ..).symm hv hkb
  refine ⟨_, _, _, hcmp, richCmp_sign hcmp .ge, richCmp_sign hcmp2 .lt, ?_⟩
  rw [hcmp2]
  cases compare kv kw <;> cases compare kv kb <;> rfl

/-- the tilde bound is the documented one -/
theorem C10_tilde_bound (c : Cls) (w : Obj) :
    tildePair c w = if w.patch > 0 then mkPlain c w.major (w.minor + 1) 0 else mkPlain c (w.major + 1) 0 0 := by
  unfold tildePair
  cases w.patch <;> cases w.minor <;> rfl

/-- the caret bound: the first non-zero component incremented, the later ones zeroed -/
theorem C10_caret_bound (c : Cls) (w : Obj) :
    caretPair c w =
      if w.major > 0 then mkPlain c (w.major + 1) 0 0
      else if w.minor > 0 then mkPlain c 0 (w.minor + 1) 0
      else if w.patch > 0 then mkPlain c 0 0 (w.patch + 1) else mkPlain c 0 0 0 := rfl

theorem caret_plain (c : Cls) (w : Obj) : ∃ x y z, caretPair c w = mkPlain c x y z := by
  unfold caretPair
  cases w.major <;> cases w.minor <;> cases w.patch <;> exact ⟨_, _, _, rfl⟩

theorem tilde_plain (c : Cls) (w : Obj) : ∃ x y z, tildePair c w = mkPlain c x y z := by
  rw [C10_tilde_bound]
  cases w.patch <;> exact ⟨_, _, _, rfl⟩

/-- `^w` means `w <= v < caretBound w` (first non-zero component incremented, later ones zeroed) -/
theorem C10_caret (hc : v.cls = w.cls) (hv : akey v = .ok kv) (hw : akey w = .ok kw) :
    ∃ c ge lt, vcompare v (.obj w) = .ok c
      ∧ richCmp .ge v (.obj w) = .ok ge ∧ richCmp .lt v (.obj (caretPair v.cls w)) = .ok lt
      ∧ matchCore v "^".toList w c = .ok (ge && lt) := by
  obtain ⟨c, ge, lt, h1, h2, h3, h4⟩ := bounded hc hv hw (caret_plain v.cls w)
  exact ⟨c, ge, lt, h1, h2, h3, (core_eq v w (by decide +kernel) c).trans h4⟩

/-- `~=w` and `~w` mean `w <= v <` next minor when `w` has a non-zero patch, next major otherwise -/
theorem C10_tilde (hc : v.cls = w.cls) (hv : akey v = .ok kv) (hw : akey w = .ok kw) (op : Str)
    (hop : op = "~=".toList ∨ op = "~".toList) :
    ∃ c ge lt, vcompare v (.obj w) = .ok c
      ∧ richCmp .ge v (.obj w) = .ok ge ∧ richCmp .lt v (.obj (tildePair v.cls w)) = .ok lt
      ∧ matchCore v op w c = .ok (ge && lt) := by
  obtain ⟨c, ge, lt, h1, h2, h3, h4⟩ := bounded hc hv hw (tilde_plain v.cls w)
  refine ⟨c, ge, lt, h1, h2, h3, ?_⟩
  rcases hop with rfl | rfl <;> exact (core_eq v w (by decide +kernel) c).trans h4

end Ops

/-- from the expression to the core: once the expression is split and its version text parses,
    `match` is `matchCore` on the parsed version -/
theorem C10_expr (v w : Obj) (op m : Str) (c : Int)
    (hs : validateExprMatch (op ++ m) = .ok (op, m)) (hposs : (possibility op).isSome = true)
    (hp : parse v.cls m = .ok w) (hc : vcompare v (.obj w) = .ok c) :
    matchExpr v (op ++ m) = matchCore v op w c := by
  have hstr : vcompare v (.str m) = vcompare v (.obj w) := by
    have hw : w.cls = v.cls := parse_cls hp
    simp only [vcompare, coerce, hp, hw, ↓reduceIte]
  unfold matchExpr
  simp only [hs, Except.ok_bind]
  cases hq : possibility op with
  | none => simp [hq] at hposs
  | some p => simp [hstr, hc, hp]

-- non-vacuity / end-to-end instances (kernel-evaluated on the regenerated tables) ------------------

def okIs (b : Bool) : R Bool → Bool
  | .ok x => x == b
  | _ => false

def isErr (e : Err) : R Bool → Bool
  | .error x => x == e
  | _ => false

example : okIs true (do let v ← parse .sem "0.24.25-rc1".toList; matchExpr v "^0.24.1".toList) = true := by decide +kernel
example : okIs false (do let v ← parse .base "0.25.0".toList; matchExpr v "^0.24.1".toList) = true := by decide +kernel
example : okIs true (do let v ← parse .pkg "1.4.9".toList; matchExpr v "~=1.4.5".toList) = true := by decide +kernel
example : okIs false (do let v ← parse .pkg "1.5.0".toList; matchExpr v "~=1.4.5".toList) = true := by decide +kernel
example : okIs true (do let v ← parse .base "10.0.0".toList; matchExpr v ">9.99.99".toList) = true := by decide +kernel
example : isErr .pyValue (do let v ← parse .base "1.2.3".toList; matchExpr v "=1.2.3".toList) = true := by decide +kernel
example : isErr .pyValue (do let v ← parse .base "1.2.3".toList; matchExpr v ">= 1.2.3".toList) = true := by decide +kernel
example : isErr .pyValue (do let v ← parse .base "1.2.3".toList; matchExpr v "~1.2".toList) = true := by decide +kernel

end C10
