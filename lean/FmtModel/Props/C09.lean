import FmtModel.Lemmas.SerialParse
import FmtModel.Classes.Storage
/-
  C09 — Serial and Storage are exact on integers of any size.

  Proved for EVERY natural number n (no bound on its size), in strict and non-strict mode, on the
  pattern text, priorities table and anchors regenerated from the source:
  * `C09_serial_parse_decimal`   parsing `str(n)` with `%n` yields an object whose value is n;
  * `C09_serial_parse_zeros`     … also with any number of extra leading zeros;
  * `C09_serial_from_value`      `from_value(n)` has value n;
  * `C09_serial_render`          the renderers are Python's `str(n)`, `rjust`, `{:0wb}`, `{:,}`, `{:_}`;
  * `C09_serial_pad`             `%p` on its whole domain: for every n < 1000, `%p` renders n as its three-digit
                                 text and parsing that text yields value n.
  Kernel-evaluated instances cover the other spellings (`%p %b %c %u`) and the Storage unit
  arithmetic at sizes up to 10^26; their statements for all n are validated by the sweep
  (`harness/props/C09.py`, exact rationals), not proved.
-/
namespace C09
open Py Engine Serial

theorem C09_serial_parse_zeros (n k : Nat) (strict : Bool) :
    ∃ o, Engine.parse Serial.cls (List.replicate k '0' ++ showNat n) (some "%n".toList) strict = .ok o
       ∧ Serial.value o = .ok n := by
  have hne : List.replicate k '0' ++ showNat n ≠ [] := by simp [showNat_ne_nil]
  have hd := digits_zeros_showNat n k
  exact ⟨_, parse_digits _ hne hd strict, by rw [value_objNumber hne hd, ofDigitChars_zeros_showNat]⟩

theorem C09_serial_parse_decimal (n : Nat) (strict : Bool) :
    ∃ o, Engine.parse Serial.cls (showNat n) (some "%n".toList) strict = .ok o ∧ Serial.value o = .ok n := by
  simpa using C09_serial_parse_zeros n 0 strict

theorem serial_base_tokens : tokens Gen.from_value_token_re Serial.cls.baseFmt = .ok ["%n".toList] := by decide +kernel

/-- `Serial.from_value(n)` is `Serial.parse(str(n), "%n")` -/
theorem fromValue_eq_parse (n : Nat) :
    Engine.fromValue Serial.cls n = Engine.parse Serial.cls (showNat n) (some "%n".toList) false := by
  have hk : ((Serial.cls.rows.map (·.1)).filter fun k => ["%n".toList].contains k) = ["%n".toList] := by decide +kernel
  unfold Engine.fromValue
  rw [serial_base_tokens]
  simp only [bind, Except.bind, hk]
  rfl

/-- `Serial.from_value(n)` is the object whose `number` is `str(n)` -/
theorem fromValue_serial (n : Nat) : Engine.fromValue Serial.cls n = .ok (objNumber (showNat n)) := by
  rw [fromValue_eq_parse]; exact parse_digits _ (showNat_ne_nil n) (showNat_digits n) false

/-- `Serial.from_value(n)` has value n, for every n -/
theorem C09_serial_from_value (n : Nat) :
    ∃ o, Engine.fromValue Serial.cls n = .ok o ∧ Serial.value o = .ok n :=
  ⟨_, fromValue_serial n, value_objNumber_showNat n⟩

/-- the renderers are Python's integer formats -/
theorem C09_serial_render (n : Nat) :
    Serial.cls.render "%n".toList n = .ok (showNat n)
  ∧ Serial.cls.render "%p".toList n = .ok (toPadding Gen.serial_max_padding (showNat n))
  ∧ Serial.cls.render "%b".toList n = .ok (showBinPad Gen.serial_max_binary n)
  ∧ Serial.cls.render "%c".toList n = .ok (showThousands ',' n)
  ∧ Serial.cls.render "%u".toList n = .ok (showThousands '_' n) := ⟨rfl, rfl, rfl, rfl, rfl⟩

-- `%p` on its whole domain: n < 1000, a three-digit field -------------------------------------------------
/-- `%p` renders n as its three-digit text, and `Serial.parse(text, "%p")` has value n -/
def padOk (n : Nat) (strict : Bool) : Bool :=
  let text := rjust (showNat n) 3 '0'
  decide (Serial.cls.render "%p".toList n = .ok text) &&
  (match Engine.parse Serial.cls text (some "%p".toList) strict with
   | .ok o => Serial.value o == .ok n
   | .error _ => false)

/-- the three-digit text of n < 1000: `str(n)` behind zeros -/
theorem pad_text {n : Nat} (hn : n < 1000) :
    (rjust (showNat n) 3 '0').length = 3 ∧ (∀ c ∈ rjust (showNat n) 3 '0', isAsciiDigit c = true)
    ∧ Nat.ofDigitChars 10 (rjust (showNat n) 3 '0') 0 = n := by
  have hlen : (showNat n).length ≤ 3 := by
    rw [showNat_eq]; exact (Nat.length_toDigits_le_iff (by decide) (by decide)).mpr hn
  exact ⟨by simp [rjust]; omega, digits_zeros_showNat n _, ofDigitChars_zeros_showNat n _⟩

/-- `Serial.parse(text, "%p")` of the three-digit text of n has value n -/
theorem parse_pad_value (n : Nat) (hn : n < 1000) (strict : Bool) :
    ∃ o, Engine.parse Serial.cls (rjust (showNat n) 3 '0') (some "%p".toList) strict = .ok o ∧ Serial.value o = .ok n := by
  obtain ⟨hl, hd, hv⟩ := pad_text hn
  exact ⟨_, Serial.parse_pad _ hl hd strict, by
    rw [Serial.value_objNumber (Serial.removePad_ne_nil _) (Serial.removePad_digits hd), Serial.ofDigitChars_removePad, hv]⟩

/-- **`%p` on its whole domain** -/
theorem C09_serial_pad (n : Nat) (hn : n < 1000) (strict : Bool) : padOk n strict = true := by
  have hr : Serial.cls.render "%p".toList n = .ok (rjust (showNat n) 3 '0') := by
    show Except.ok (Serial.toPadding 3 (showNat n)) = _
    simp [Serial.toPadding, showNat_ne_nil]
  obtain ⟨o, ho, hv⟩ := parse_pad_value n hn strict
  simp only [padOk, hr, ho, hv, decide_true, Bool.true_and, beq_self_eq_true]

-- the other spellings and the Storage units, on concrete sizes (kernel evaluation) -------------------

def serialRoundTrip (n : Nat) (d : String) : Bool :=
  match Serial.cls.render d.toList n with
  | .ok text =>
    (match Engine.parse Serial.cls text (some d.toList) true with
     | .ok o => Serial.value o == .ok n
     | .error _ => false)
  | .error _ => false

theorem C09_serial_spellings :
    ∀ n ∈ [0, 1, 7, 10, 100, 255, 999], ∀ d ∈ ["%n", "%p", "%b", "%c", "%u"], serialRoundTrip n d = true := by
  decide +kernel

theorem C09_serial_big :
    ∀ n ∈ [9007199254740993, 10000000000000000000000000000007, 1267650600228229401496703205376],
      ∀ d ∈ ["%n", "%c", "%u"], serialRoundTrip n d = true := by decide +kernel

def storageUnit (N : Nat) (d unit : String) (k : Nat) : Bool :=
  match Engine.parse Storage.cls (showNat N ++ unit.toList) (some d.toList) false with
  | .ok o =>
    Storage.string o == showNat (N * 8 * 1024 ^ k)
      && (match Engine.format Storage.cls o d.toList with | .ok t => t == showNat N ++ unit.toList | .error _ => false)
  | .error _ => false

theorem C09_storage_units :
    ∀ N ∈ [0, 1, 7, 1023, 1024, 123456789],
      storageUnit N "%B" "B" 0 = true ∧ storageUnit N "%K" "KB" 1 = true ∧ storageUnit N "%M" "MB" 2 = true
    ∧ storageUnit N "%G" "GB" 3 = true ∧ storageUnit N "%T" "TB" 4 = true ∧ storageUnit N "%P" "PB" 5 = true := by
  decide +kernel

end C09
