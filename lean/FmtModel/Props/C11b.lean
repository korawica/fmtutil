import FmtModel.Props.C11a
namespace C11
theorem C11_pre_long : ∀ lead ∈ leads, ∀ l ∈ ["alpha", "beta", "pre", "preview"], ∀ i ∈ inners, preTerm lead l i "7" false = true := by
  simp only [preTerm, mirrors, String.toList_append, String.reduceToList]
  decide +kernel
end C11
