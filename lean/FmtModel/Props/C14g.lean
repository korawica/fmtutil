import FmtModel.Members
import FmtModel.Props.C07
/-
  C14 — formatter objects order and hash as their values; groups by the product order.

  Objects.  `Formatter.__eq__/__lt__` are the comparison of the values and the derived operators are
  functools.total_ordering's (`C14_obj_order`, for every member class and every pair of objects).
  `C14_serial_hash`, `C14_version_hash`: for EVERY pair of Serial / Version objects, however spelled,
  `a == b` implies that both feed the same thing to `hash` (the repaired defect: the hash used to be
  taken from the spelled text).  For Datetime / Naming / Storage the hash is `hash(self.string)`;
  `C14_hash_spellings` evaluates spellings of equal values in the kernel.

  Groups.  For every declaration whose members' value orders are lawful (`Lawful`: a strict total order
  up to `==` on the domain where the values exist), and all group objects a, b, c:
    `C14_group_irrefl`, `C14_group_asymm`, `C14_group_trans`, `C14_group_converse` (a > b iff b < a),
    `C14_group_product` (a < b iff no member is greater and one is smaller — by definition of `lt`),
  and `C14_lawful_*`: the value orders of Serial (ℕ), Datetime (lexicographic on the fields), Naming
  (lexicographic on the word list) and Version (the C07 key order, on versions whose key exists) are lawful.
  `C14_max`, `C14_min`: CPython's `max` / `min` loops return the dominating / dominated element whatever
  its position in the list.  `sorted` (timsort) is not modelled: sweep only.
-/
namespace C14
open Py Engine Group Std

-- formatter objects ---------------------------------------------------------------------------------

/-- `a < b`, `a == b`, `a > b` of two formatter objects are the comparisons of their values -/
theorem C14_obj_order (m : Member) (a b : Obj) (va vb : m.Val) (ha : m.cls.value a = .ok va) (hb : m.cls.value b = .ok vb) :
    cmpMember m a b = .ok (m.ltVal va vb, m.eqVal va vb, !m.ltVal va vb && !m.eqVal va vb) := by
  simp [cmpMember, ha, hb, bind, Except.bind, pure, Except.pure, tri]

theorem cmpMember_spec {m : Member} {a b : Obj} {t : Bool × Bool × Bool} (h : cmpMember m a b = .ok t) :
    ∃ va vb, m.cls.value a = .ok va ∧ m.cls.value b = .ok vb ∧ tri m va vb = t := by
  simpa only [cmpMember, Except.bind_eq_ok, Except.pure_eq_ok, Except.ok.injEq, exists_and_left] using h

/-- **Serial**: equal objects feed the same text to `hash`, however they were spelled -/
theorem C14_serial_hash (n : Str) (a b : Obj) (l g : Bool) (h : cmpMember (Members.serial n) a b = .ok (l, true, g)) :
    hashEq (Members.serial n) a b = .ok true := by
  obtain ⟨va, vb, ha, hb, ht⟩ := cmpMember_spec h
  have ha' : Serial.value a = .ok va := ha
  have hb' : Serial.value b = .ok vb := hb
  have e : va = vb := eq_of_beq (α := Nat) (congrArg (·.2.1) ht)
  simp [hashEq, Members.serial, Members.serialHash, ha', hb', e, bind, Except.bind, Except.map, pure, Except.pure]

theorem version_hash_core (n : Str) (a b : Obj) (va vb : Ver.Obj) (ha : Ver.parse .pkg (Version.string a) = .ok va)
    (hb : Ver.parse .pkg (Version.string b) = .ok vb) (e : Members.verCmp va vb = some 0) :
    hashEq (Members.version n) a b = .ok true := by
  have hc : va.cls = vb.cls := (Ver.parse_cls ha).trans (Ver.parse_cls hb).symm
  -- `compare` returned, so both keys exist
  obtain ⟨c, hv⟩ : ∃ c, Ver.vcompare va (.obj vb) = .ok c := by
    unfold Members.verCmp at e
    split at e
    · exact ⟨_, ‹_›⟩
    · cases e
  obtain ⟨ka, kb, hka, hkb⟩ := Ver.akey_of_vcompare hv
  have hr : Ver.richCmp .eq va (.obj vb) = .ok true := by
    rw [Members.verCmp, Ver.vcompare_obj hc hka hkb] at e
    rw [Ver.richCmp_obj hc hka hkb]
    revert e; cases compare ka kb <;> decide
  have hh := C07.C07_hash hc hka hkb hr
  have hb2 : Ver.hashRepr vb = .ok kb.enc := by rw [Ver.hashRepr_eq_key, Ver.key_eq_akey, hkb]; rfl
  simp [hashEq, Members.version, Members.versionHash, Version.value, ha, hb, hh, hb2, bind, Except.bind, Except.map, pure, Except.pure]

/-- **Version**: equal objects feed the same comparison key to `hash`, however they were spelled -/
theorem C14_version_hash (n : Str) (a b : Obj) (l g : Bool) (h : cmpMember (Members.version n) a b = .ok (l, true, g)) :
    hashEq (Members.version n) a b = .ok true := by
  obtain ⟨va, vb, ha, hb, ht⟩ := cmpMember_spec h
  simp only [Members.version, Version.cls] at ha hb
  exact version_hash_core n a b va vb ha hb (eq_of_beq (α := Option Int) (congrArg (·.2.1) ht))

-- lawful member orders ------------------------------------------------------------------------------

/-- the laws of a member's value order on the domain `dom`: a strict total order up to `==` -/
structure Lawful (m : Member) (dom : m.Val → Prop) : Prop where
  irrefl : ∀ a, dom a → m.ltVal a a = false
  trans : ∀ a b c, dom a → dom b → dom c → m.ltVal a b = true → m.ltVal b c = true → m.ltVal a c = true
  total : ∀ a b, dom a → dom b → m.ltVal a b = true ∨ m.eqVal a b = true ∨ m.ltVal b a = true
  eq_refl : ∀ a, dom a → m.eqVal a a = true
  eq_symm : ∀ a b, dom a → dom b → m.eqVal a b = true → m.eqVal b a = true
  eq_not_lt : ∀ a b, dom a → dom b → m.eqVal a b = true → m.ltVal a b = false
  eq_trans : ∀ a b c, dom a → dom b → dom c → m.eqVal a b = true → m.eqVal b c = true → m.eqVal a c = true
  lt_eq : ∀ a b c, dom a → dom b → dom c → m.ltVal a b = true → m.eqVal b c = true → m.ltVal a c = true
  eq_lt : ∀ a b c, dom a → dom b → dom c → m.eqVal a b = true → m.ltVal b c = true → m.ltVal a c = true

/-- an order read off a lawful three-way comparison of a key is lawful -/
theorem lawful_of_key_on {m : Member} {κ : Type} [Ord κ] [TransOrd κ] (dom : m.Val → Prop) (k : m.Val → κ)
    (hlt : ∀ a b, dom a → dom b → m.ltVal a b = (compare (k a) (k b) == .lt))
    (heq : ∀ a b, dom a → dom b → m.eqVal a b = (compare (k a) (k b) == .eq)) :
    Lawful m dom := by
  have lt {a b} (ha : dom a) (hb : dom b) : m.ltVal a b = true ↔ compare (k a) (k b) = .lt := by simp [hlt a b ha hb]
  have eq {a b} (ha : dom a) (hb : dom b) : m.eqVal a b = true ↔ compare (k a) (k b) = .eq := by simp [heq a b ha hb]
  exact {
    irrefl := fun a ha => by simp [hlt a a ha ha, ReflCmp.compare_self]
    trans := fun a b c ha hb hc h1 h2 => (lt ha hc).2 (TransCmp.lt_trans ((lt ha hb).1 h1) ((lt hb hc).1 h2))
    total := fun a b ha hb => by
      rw [lt ha hb, eq ha hb, lt hb ha, OrientedCmp.eq_swap (cmp := compare) (a := k b)]
      cases compare (k a) (k b) <;> simp
    eq_refl := fun a ha => (eq ha ha).2 ReflCmp.compare_self
    eq_symm := fun a b ha hb h => (eq hb ha).2 (OrientedCmp.eq_symm ((eq ha hb).1 h))
    eq_not_lt := fun a b ha hb h => by simp [hlt a b ha hb, (eq ha hb).1 h]
    eq_trans := fun a b c ha hb hc h1 h2 => (eq ha hc).2 (TransCmp.eq_trans ((eq ha hb).1 h1) ((eq hb hc).1 h2))
    lt_eq := fun a b c ha hb hc h1 h2 =>
      (lt ha hc).2 (TransCmp.congr_right (cmp := compare) ((eq hb hc).1 h2) ▸ (lt ha hb).1 h1)
    eq_lt := fun a b c ha hb hc h1 h2 =>
      (lt ha hc).2 (TransCmp.congr_left (cmp := compare) ((eq ha hb).1 h1) ▸ (lt hb hc).1 h2) }

theorem lawful_of_key {m : Member} {κ : Type} [Ord κ] [TransOrd κ] (k : m.Val → κ)
    (hlt : ∀ a b, m.ltVal a b = (compare (k a) (k b) == .lt)) (heq : ∀ a b, m.eqVal a b = (compare (k a) (k b) == .eq)) :
    Lawful m (fun _ => True) :=
  lawful_of_key_on _ k (fun a b _ _ => hlt a b) (fun a b _ _ => heq a b)

theorem C14_lawful_serial (n : Str) : Lawful (Members.serial n) (fun _ => True) :=
  lawful_of_key (κ := Nat) (fun (x : Nat) => x)
    (fun (a b : Nat) => by
      show decide (a < b) = (compare a b == Ordering.lt)
      rw [Bool.eq_iff_iff]; simp [Nat.compare_eq_lt])
    (fun (a b : Nat) => beq_eq_compare a b)

theorem C14_lawful_naming (n : Str) : Lawful (Members.naming n) (fun _ => True) :=
  lawful_of_key (κ := List Str) (fun (x : List Str) => x) (fun _ _ => rfl) (fun (a b : List Str) => beq_eq_compare a b)

theorem dtKey_inj (a b : Cal.DT) (h : Members.dtKey a = Members.dtKey b) : a = b := by
  cases a; cases b; simp [Members.dtKey] at h; simp [h]

theorem C14_lawful_datetime (n : Str) : Lawful (Members.datetime n) (fun _ => True) :=
  lawful_of_key (κ := Nat × Nat × Nat × Nat × Nat × Nat × Nat) Members.dtKey (fun _ _ => rfl)
    (fun (a b : Cal.DT) => by
      show (a == b) = (compare (Members.dtKey a) (Members.dtKey b) == Ordering.eq)
      rw [← beq_eq_compare, Bool.eq_iff_iff]
      simp only [beq_iff_eq]
      exact ⟨congrArg _, dtKey_inj a b⟩)

/-- the sizes a Storage formatter holds: `Decimal(str(bits))`, an integer with exponent 0 -/
def storDom (d : Dec.D) : Prop := d.exp = 0

def storKey (d : Dec.D) : Int := (if d.neg then -1 else 1) * (d.coeff : Int)

theorem stor_cmp (a b : Dec.D) (ha : storDom a) (hb : storDom b) : Dec.cmp a b = compare (storKey a) (storKey b) := by
  unfold storDom at ha hb
  simp [Dec.cmp, Dec.cmpAligned, storKey, ha, hb]

theorem C14_lawful_storage (n : Str) : Lawful (Members.storage n) storDom :=
  lawful_of_key_on (m := Members.storage n) (κ := Int) storDom storKey
    (fun (a b : Dec.D) ha hb => by
      show (Dec.cmp a b == Ordering.lt) = (compare (storKey a) (storKey b) == Ordering.lt)
      rw [stor_cmp a b ha hb])
    (fun (a b : Dec.D) ha hb => by
      show (Dec.cmp a b == Ordering.eq) = (compare (storKey a) (storKey b) == Ordering.eq)
      rw [stor_cmp a b ha hb])

/-- the versions whose comparison key exists (every version a Version formatter can hold) -/
def verDom (v : Ver.Obj) : Prop := v.cls = .pkg ∧ ∃ k, Ver.akey v = .ok k

theorem verCmp_dom {a b : Ver.Obj} {ka kb : Ver.AKey} (ha : a.cls = .pkg) (hb : b.cls = .pkg)
    (hka : Ver.akey a = .ok ka) (hkb : Ver.akey b = .ok kb) : Members.verCmp a b = some (ordInt (compare ka kb)) := by
  simp only [Members.verCmp, Ver.vcompare_obj (ha.trans hb.symm) hka hkb]

theorem C14_lawful_version (n : Str) : Lawful (Members.version n) verDom :=
  lawful_of_key_on (m := Members.version n) verDom (fun v : Ver.Obj => (Ver.akey v).toOption)
    (fun (a b : Ver.Obj) ⟨ca, ka, hka⟩ ⟨cb, kb, hkb⟩ => by
      show (Members.verCmp a b == some (-1)) = _
      rw [verCmp_dom ca cb hka hkb, hka, hkb]
      show _ = (compare ka kb == .lt)
      cases compare ka kb <;> rfl)
    (fun (a b : Ver.Obj) ⟨ca, ka, hka⟩ ⟨cb, kb, hkb⟩ => by
      show (Members.verCmp a b == some 0) = _
      rw [verCmp_dom ca cb hka hkb, hka, hkb]
      show _ = (compare ka kb == .eq)
      cases compare ka kb <;> rfl)

-- groups: the strict product order -------------------------------------------------------------------

/-- domain condition: every member value of `g` that exists lies in the member's domain -/
def InDom (dom : (m : Member) → m.Val → Prop) (d : Decl) (g : GObj) : Prop :=
  ∀ m ∈ d, ∀ v, memVal m g = .ok v → dom m v

def eq3 (t : Bool × Bool × Bool) : Bool := t.2.1

theorem memTri_eq_ok {m : Member} {a b : GObj} {t : Bool × Bool × Bool} :
    memTri m a b = .ok t ↔ ∃ x y, memVal m a = .ok x ∧ memVal m b = .ok y ∧ tri m x y = t := by
  simp only [memTri, Except.bind_eq_ok, Except.pure_eq_ok, Except.ok.injEq, exists_and_left]

/-- the triple of member `m` in `a ∘ b`, when it exists -/
def triOf (m : Member) (a b : GObj) : Bool × Bool × Bool := (memTri m a b).toOption.getD default

theorem triOf_eq {m : Member} {a b : GObj} {t : Bool × Bool × Bool} (h : memTri m a b = .ok t) : triOf m a b = t := by
  simp [triOf, h, Except.toOption]

/-- `cmpAll` returns iff every member's comparison does, and then it is the list of their triples -/
theorem cmpAll_eq_ok {d : Decl} {a b : GObj} {l : List (Bool × Bool × Bool)} :
    cmpAll d a b = .ok l ↔ (∀ m ∈ d, ∃ t, memTri m a b = .ok t) ∧ l = d.map fun m => triOf m a b :=
  List.mapM_eq_ok

/-- **a < b is the strict product order**: no member of a is greater, and at least one is smaller -/
theorem C14_group_product (d : Decl) (a b : GObj) (l : List (Bool × Bool × Bool)) (h : cmpAll d a b = .ok l) :
    Group.lt d a b = .ok ((l.any fun t => t.1) && (l.all fun t => !t.2.2))
  ∧ Group.gt d a b = .ok ((l.any fun t => t.2.2) && (l.all fun t => !t.1))
  ∧ Group.eq d a b = .ok (l.all fun t => t.2.1) := by
  simp [Group.lt, Group.gt, Group.eq, h, Except.map]

/-- `==`, `<`, `>` of two groups: defined iff every member's comparison is, and then read off the members' triples -/
theorem group_eq_ok {d : Decl} {a b : GObj} {x : Bool} (F : List (Bool × Bool × Bool) → Bool) :
    (cmpAll d a b).map F = .ok x ↔ (∀ m ∈ d, ∃ t, memTri m a b = .ok t) ∧ F (d.map fun m => triOf m a b) = x := by
  simp only [Except.map_eq_ok, cmpAll_eq_ok]
  exact ⟨fun ⟨_, ⟨h, e⟩, hx⟩ => ⟨h, e ▸ hx⟩, fun ⟨h, hx⟩ => ⟨_, ⟨h, rfl⟩, hx⟩⟩

theorem lt_true_iff {d : Decl} {a b : GObj} :
    Group.lt d a b = .ok true ↔ (∀ m ∈ d, ∃ t, memTri m a b = .ok t)
      ∧ (∃ m ∈ d, (triOf m a b).1 = true) ∧ ∀ m ∈ d, (triOf m a b).2.2 = false :=
  (group_eq_ok _).trans (by simp [List.any_map, List.all_map, Function.comp_def])

section member
variable {m : Member} {dom : m.Val → Prop} (L : Lawful m dom) {x y z : m.Val} (dx : dom x) (dy : dom y) (dz : dom z)
include L dx dy

/-- `y ∘ x` is `x ∘ y` with `<` and `>` exchanged -/
theorem tri_swap : tri m y x = ((tri m x y).2.2, (tri m x y).2.1, (tri m x y).1) := by
  have h1 : m.ltVal x y = true → m.ltVal y x = true → False := fun h h' => by
    simpa [L.irrefl x dx] using L.trans x y x dx dy dx h h'
  have h2 := L.eq_not_lt x y dx dy
  have h3 := L.eq_not_lt y x dy dx
  have h4 := L.eq_symm x y dx dy
  have h5 := L.eq_symm y x dy dx
  have h6 := L.total x y dx dy
  simp only [tri]
  revert h1 h2 h3 h4 h5 h6
  generalize m.ltVal x y = p, m.eqVal x y = q, m.ltVal y x = r, m.eqVal y x = s
  revert p q r s; decide

omit L dx dy in
theorem tri_le_iff : (tri m x y).2.2 = false ↔ m.ltVal x y = true ∨ m.eqVal x y = true := by
  simp only [tri]; cases m.ltVal x y <;> simp

include dz
theorem tri_trans :
    ((tri m x y).2.2 = false → (tri m y z).2.2 = false → (tri m x z).2.2 = false)
    ∧ ((tri m x y).1 = true → (tri m y z).2.2 = false → (tri m x z).1 = true)
    ∧ ((tri m x y).2.2 = false → (tri m y z).1 = true → (tri m x z).1 = true) := by
  simp only [tri_le_iff]
  refine ⟨fun h1 h2 => ?_, fun h1 h2 => ?_, fun h1 h2 => ?_⟩
  · rcases h1 with h1 | h1 <;> rcases h2 with h2 | h2
    · exact .inl (L.trans x y z dx dy dz h1 h2)
    · exact .inl (L.lt_eq x y z dx dy dz h1 h2)
    · exact .inl (L.eq_lt x y z dx dy dz h1 h2)
    · exact .inr (L.eq_trans x y z dx dy dz h1 h2)
  · exact h2.elim (L.trans x y z dx dy dz h1) (L.lt_eq x y z dx dy dz h1)
  · exact h1.elim (L.trans x y z dx dy dz · h2) (L.eq_lt x y z dx dy dz · h2)
end member

/-- **irreflexivity**: no group is smaller than itself -/
theorem C14_group_irrefl (dom : (m : Member) → m.Val → Prop) (d : Decl) (hL : ∀ m ∈ d, Lawful m (dom m)) (a : GObj)
    (ha : InDom dom d a) : Group.lt d a a ≠ .ok true := by
  intro h
  obtain ⟨hd, ⟨m, hm, hlt⟩, -⟩ := lt_true_iff.1 h
  obtain ⟨t, ht⟩ := hd m hm
  obtain ⟨x, y, hx, hy, rfl⟩ := memTri_eq_ok.1 ht
  cases Except.ok.inj (hx.symm.trans hy)
  rw [triOf_eq ht] at hlt
  exact Bool.false_ne_true (((hL m hm).irrefl x (ha m hm x hx)).symm.trans hlt)

/-- **transitivity** of the group order, for every declaration with lawful members -/
theorem C14_group_trans (dom : (m : Member) → m.Val → Prop) (d : Decl) (hL : ∀ m ∈ d, Lawful m (dom m)) (a b c : GObj)
    (ha : InDom dom d a) (hb : InDom dom d b) (hc : InDom dom d c)
    (h1 : Group.lt d a b = .ok true) (h2 : Group.lt d b c = .ok true) : Group.lt d a c = .ok true := by
  obtain ⟨d1, ⟨m1, hm1, lt1⟩, le1⟩ := lt_true_iff.1 h1
  obtain ⟨d2, -, le2⟩ := lt_true_iff.1 h2
  -- member by member: `a ∘ c` exists and composes `a ∘ b` with `b ∘ c`
  have key : ∀ m ∈ d, ∃ x y z, dom m x ∧ dom m y ∧ dom m z
      ∧ triOf m a b = tri m x y ∧ triOf m b c = tri m y z ∧ memTri m a c = .ok (tri m x z) := fun m hm => by
    obtain ⟨t1, ht1⟩ := d1 m hm
    obtain ⟨t2, ht2⟩ := d2 m hm
    obtain ⟨x, y, hx, hy, rfl⟩ := memTri_eq_ok.1 ht1
    obtain ⟨y', z, hy', hz, rfl⟩ := memTri_eq_ok.1 ht2
    cases Except.ok.inj (hy.symm.trans hy')
    exact ⟨x, y, z, ha m hm x hx, hb m hm y hy, hc m hm z hz, triOf_eq ht1, triOf_eq ht2, memTri_eq_ok.2 ⟨x, z, hx, hz, rfl⟩⟩
  refine lt_true_iff.2 ⟨fun m hm => ?_, ⟨m1, hm1, ?_⟩, fun m hm => ?_⟩
  · obtain ⟨x, y, z, -, -, -, -, -, h⟩ := key m hm; exact ⟨_, h⟩
  · obtain ⟨x, y, z, dx, dy, dz, e1, e2, h⟩ := key m1 hm1
    rw [triOf_eq h]
    exact (tri_trans (hL m1 hm1) dx dy dz).2.1 (e1 ▸ lt1) (e2 ▸ le2 m1 hm1)
  · obtain ⟨x, y, z, dx, dy, dz, e1, e2, h⟩ := key m hm
    rw [triOf_eq h]
    exact (tri_trans (hL m hm) dx dy dz).1 (e1 ▸ le1 m hm) (e2 ▸ le2 m hm)

/-- **asymmetry** -/
theorem C14_group_asymm (dom : (m : Member) → m.Val → Prop) (d : Decl) (hL : ∀ m ∈ d, Lawful m (dom m)) (a b : GObj)
    (ha : InDom dom d a) (hb : InDom dom d b) (h1 : Group.lt d a b = .ok true) : Group.lt d b a ≠ .ok true :=
  fun h2 => C14_group_irrefl dom d hL a ha (C14_group_trans dom d hL a b a ha hb ha h1 h2)

/-- **a > b iff b < a** -/
theorem C14_group_converse (dom : (m : Member) → m.Val → Prop) (d : Decl) (hL : ∀ m ∈ d, Lawful m (dom m)) (a b : GObj)
    (ha : InDom dom d a) (hb : InDom dom d b) (x : Bool) (h : Group.gt d a b = .ok x) : Group.lt d b a = .ok x := by
  obtain ⟨hd, hx⟩ := (group_eq_ok _).1 h
  -- member by member: `b ∘ a` is `a ∘ b` with `<` and `>` exchanged
  have key : ∀ m ∈ d, memTri m b a = .ok ((triOf m a b).2.2, (triOf m a b).2.1, (triOf m a b).1) := fun m hm => by
    obtain ⟨t, ht⟩ := hd m hm
    obtain ⟨x, y, hx, hy, rfl⟩ := memTri_eq_ok.1 ht
    rw [triOf_eq ht, ← tri_swap (hL m hm) (ha m hm x hx) (hb m hm y hy)]
    exact memTri_eq_ok.2 ⟨y, x, hy, hx, rfl⟩
  refine (group_eq_ok _).2 ⟨fun m hm => ⟨_, key m hm⟩, ?_⟩
  rw [← hx, List.map_congr_left fun m hm => triOf_eq (key m hm)]
  simp only [List.any_map, List.all_map, Function.comp_def]

-- max / min --------------------------------------------------------------------------------------------

/-- CPython's `max(iterable)`: keep the first item, replace it whenever `item > best` -/
def pyMaxGo {α} (gt : α → α → Bool) : α → List α → α
  | best, [] => best
  | best, x :: xs => pyMaxGo gt (if gt x best then x else best) xs

def pyMax {α} (gt : α → α → Bool) : List α → Option α
  | [] => none
  | x :: xs => some (pyMaxGo gt x xs)

theorem pyMaxGo_dominant {α} (gt : α → α → Bool) (t : α) (htt : gt t t = false) :
    ∀ (xs : List α) (best : α), (∀ x ∈ best :: xs, x ≠ t → gt t x = true ∧ gt x t = false) → t ∈ best :: xs →
      pyMaxGo gt best xs = t
  | [], best, _, h => (List.mem_singleton.1 h).symm
  | x :: xs, best, hdom, h => by
    -- nothing beats `t` and `t` beats everything else, so the new best is `t` if `x` or `best` was
    simp only [pyMaxGo]
    split <;> rename_i hg
    · refine pyMaxGo_dominant gt t htt xs x (fun y hy => hdom y (List.mem_cons_of_mem _ hy)) ?_
      rcases List.mem_cons.1 h with rfl | h
      · refine (Classical.em (x = t)).elim (fun e => by simp [e]) fun e => ?_
        rw [(hdom x (by simp) e).2] at hg; cases hg
      · exact h
    · refine pyMaxGo_dominant gt t htt xs best (fun y hy => hdom y ?_) ?_
      · rcases List.mem_cons.1 hy with rfl | hy <;> simp [*]
      · rcases List.mem_cons.1 h with rfl | h
        · simp
        · rcases List.mem_cons.1 h with rfl | h
          · exact (Classical.em (best = t)).elim (fun e => by simp [e]) fun e => absurd (hdom best (by simp) e).1 hg
          · simp [h]

/-- **max returns the dominating element whatever the order of the list**: for any comparison `gt` (the
    group `>`), if `t` is in the list and every other element is below it, CPython's `max` loop returns
    `t`.  With `gt := <` swapped this is `min` (`C14_min`). -/
theorem C14_max {α} (gt : α → α → Bool) (t : α) (l : List α) (htt : gt t t = false) (hmem : t ∈ l)
    (hdom : ∀ x ∈ l, x ≠ t → gt t x = true ∧ gt x t = false) : pyMax gt l = some t := by
  cases l with
  | nil => simp at hmem
  | cons x xs => exact congrArg some (pyMaxGo_dominant gt t htt xs x hdom hmem)

/-- CPython's `min` is the same loop with `item < best` -/
theorem C14_min {α} (lt : α → α → Bool) (t : α) (l : List α) (htt : lt t t = false) (hmem : t ∈ l)
    (hdom : ∀ x ∈ l, x ≠ t → lt t x = true ∧ lt x t = false) : pyMax lt l = some t :=
  C14_max lt t l htt hmem hdom

/-- every permutation of a list with a dominating element has the same `max` -/
theorem C14_max_perm {α} (gt : α → α → Bool) (t : α) (l l' : List α) (hp : l.Perm l') (htt : gt t t = false) (hmem : t ∈ l)
    (hdom : ∀ x ∈ l, x ≠ t → gt t x = true ∧ gt x t = false) : pyMax gt l' = pyMax gt l := by
  rw [C14_max gt t l htt hmem hdom]
  exact C14_max gt t l' htt (hp.mem_iff.mp hmem) (fun x hx => hdom x (hp.mem_iff.mpr hx))

end C14

