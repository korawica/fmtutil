import FmtModel.Props.C09
import FmtModel.Props.C02
import FmtModel.Props.C12
import FmtModel.Classes.Version
import FmtModel.Classes.Naming
/-
  C01 — what a formatter prints, it reads back.

  * `C01_serial_n`  : for EVERY natural number n and both modes, `format` with `%n` prints `str(n)`,
                      `parse` with `%n` reads it back to an object of value n, and re-rendering that
                      object reproduces the text (regenerated tables; unbounded n).
  * the directive laws of C02 (`C02_law_*`) are the per-directive round trips of Datetime over the whole
                      range of every finite field.
  * `C01_roundtrip_*` : kernel-evaluated round trips (format → parse → re-render, value compared) for
                      each of the five formatters on multi-directive formats in both modes.
  The general statement for all values x all separator-inert formats needs the regex composition
  lemma (separator lemma) on the generated pattern text; it is validated by the sweep
  (harness/props/C01.py), not proved.
-/
namespace C01
open Py Engine

theorem replaceGo_no_head (old new : Str) (h : Char) (t : Str) (hold : old = h :: t) :
    ∀ (s : Str), (∀ c ∈ s, c ≠ h) → replaceGo old new none 0 s = s := by
  intro s
  induction s with
  | nil => intro _; rfl
  | cons c cs ih =>
    intro hs
    have hc : c ≠ h := hs c (by simp)
    have : old.isPrefixOf (c :: cs) = false := by
      subst hold
      simp [List.isPrefixOf, Ne.symm hc]
    simp only [replaceGo, this, Bool.and_false, Bool.false_eq_true, ↓reduceIte]
    rw [ih (fun x hx => hs x (by simp [hx]))]

/-- a text without the first character of `old` is untouched by `replace(old, new)` -/
theorem replaceAll_no_head (s old new : Str) (h : Char) (t : Str) (hold : old = h :: t) (hs : ∀ c ∈ s, c ≠ h) :
    replaceAll s old new = s := by
  unfold replaceAll
  subst hold
  simp only [List.isEmpty_cons, Bool.false_eq_true, ↓reduceIte]
  exact replaceGo_no_head (h :: t) new h t rfl s hs

theorem digit_ne_bracket {c : Char} (h : isAsciiDigit c = true) : c ≠ '[' := ne_of_test h (by decide)

/-- `format("%n")` prints `str(n)` -/
theorem formatVal_n (n : Nat) : formatVal Serial.cls n "%n".toList = .ok (showNat n) := by
  have hrow : (Serial.cls.rows.any fun r => r.1 == "%n".toList) = true := by decide +kernel
  have hr : Serial.cls.render "%n".toList n = .ok (showNat n) := rfl
  rw [C12.formatVal_scan _ _ (C12.render_ne_pyType _ _ · n),
    show C12.Spec.scan "%n".toList = [.dir "%n".toList] by decide]
  simp only [C12.Spec.format, hrow, hr, if_true, Except.ok_bind, Except.pure_eq_ok, List.append_nil]

/-- **Serial `%n` round trip, every n, both modes** -/
theorem C01_serial_n (n : Nat) (strict : Bool) :
    ∃ o, formatVal Serial.cls n "%n".toList = .ok (showNat n)
       ∧ Engine.parse Serial.cls (showNat n) (some "%n".toList) strict = .ok o
       ∧ Serial.value o = .ok n
       ∧ Engine.format Serial.cls o "%n".toList = .ok (showNat n) := by
  obtain ⟨o, hp, hv⟩ := C09.C09_serial_parse_decimal n strict
  refine ⟨o, formatVal_n n, hp, hv, ?_⟩
  have hv' : Serial.cls.value o = .ok n := hv
  simp only [Engine.format, hv', Except.ok_bind]
  exact formatVal_n n

-- kernel-evaluated round trips on multi-directive formats ------------------------------------------------

/-- format v with fmt, parse the text with fmt, re-render: same text, and the value is v -/
def roundTrip {V} [DecidableEq V] (C : Cls V) (v : V) (fmt : String) (strict : Bool) : Bool :=
  match formatVal C v fmt.toList with
  | .ok text =>
    (match Engine.parse C text (some fmt.toList) strict with
     | .ok o => C.value o == .ok v && Engine.format C o fmt.toList == .ok text
     | .error _ => false)
  | .error _ => false

theorem C01_roundtrip_serial : ∀ strict ∈ [false, true], ∀ n ∈ [0, 7, 10, 100, 999, 1000000, 9007199254740993],
    roundTrip Serial.cls n "%n-%c/%u #%b" strict = true ∧ (n < 1000 → roundTrip Serial.cls n "%p:%n" strict = true) := by
  decide +kernel

def tA : Cal.DT := { year := 2024, month := 2, day := 29, hour := 0, minute := 10, second := 20, micro := 300 }
def tB : Cal.DT := { year := 1999, month := 12, day := 31, hour := 12, minute := 0, second := 0, micro := 0 }
def tC : Cal.DT := { year := 9999, month := 10, day := 10, hour := 23, minute := 50, second := 59, micro := 999999 }

theorem C01_roundtrip_datetime : ∀ strict ∈ [false, true], ∀ t ∈ [tA, tB, tC],
    roundTrip Datetime.cls t "%Y-%m-%d %H:%M:%S.%f" strict = true
  ∧ roundTrip Datetime.cls t "%-d/%-m/%Y %-I:%-M:%-S %p %f" strict = true
  ∧ roundTrip Datetime.cls t "%n %f" strict = true
  ∧ roundTrip Datetime.cls t "%Y %j %H %M %S %f" strict = true
  ∧ roundTrip Datetime.cls t "%Y %U %w %H %M %S %f" strict = true
  ∧ roundTrip Datetime.cls t "%Y %W %u %I %p %M %S %f" strict = true
  ∧ roundTrip Datetime.cls t "%B %d %Y %H %M %S %f" strict = true := by decide +kernel

theorem C01_roundtrip_storage : ∀ strict ∈ [false, true], ∀ v ∈ [0, 8, 8192, 8388608, 123456789 * 8],
    roundTrip Storage.cls { coeff := v, exp := 0 } "%b" strict = true
  ∧ roundTrip Storage.cls { coeff := v, exp := 0 } "%B %b" strict = true := by decide +kernel

def nameOk (ws : List Str) (fmt : String) (strict : Bool) : Bool :=
  match formatVal Naming.cls ws fmt.toList with
  | .ok text =>
    (match Engine.parse Naming.cls text (some fmt.toList) strict with
     | .ok o => Naming.value o == .ok ws && Engine.format Naming.cls o fmt.toList == .ok text
     | .error _ => false)
  | .error _ => false

theorem C01_roundtrip_naming : ∀ strict ∈ [false, true], ∀ fmt ∈ ["%s", "%K/%a", "%c:%f", "%T;%v", "%n,%A", "%p=%F"],
    nameOk ["data".toList, "engineer".toList] fmt strict = true := by decide +kernel

def verOk (s fmt : String) (strict : Bool) : Bool :=
  match Ver.parse .pkg s.toList with
  | .ok v =>
    (match formatVal Version.cls v fmt.toList with
     | .ok text =>
       (match Engine.parse Version.cls text (some fmt.toList) strict with
        | .ok o =>
          (match Version.value o with
           | .ok v' => (match Ver.vcompare v (.obj v') with | .ok c => c == 0 | .error _ => false)
               && Engine.format Version.cls o fmt.toList == .ok text
           | .error _ => false)
        | .error _ => false)
     | .error _ => false)
  | .error _ => false

theorem C01_roundtrip_version : ∀ strict ∈ [false, true], ∀ s ∈ ["0.0.0", "1.2.3", "999.0.10", "10.999.99"],
    verOk s "%m.%n.%c" strict = true ∧ verOk s "%f" strict = true ∧ verOk s "%c %m %n" strict = true
  ∧ verOk ("2!" ++ s) "%e%m.%n.%c" strict = true ∧ verOk ("1!" ++ s) "%-e:%f" strict = true := by decide +kernel

end C01
