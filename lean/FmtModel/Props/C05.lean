import FmtModel.Lemmas.Loop
import FmtModel.Classes.Serial
import FmtModel.Classes.Datetime
import FmtModel.Classes.Storage
import FmtModel.Classes.Naming
/-
  C05 — redundant information is cross-checked, independent of field order.

  * `C05_order` (general, every formatter class `C`, both modes): the object built from the captures
    does not depend on the order in which the captures arrive.  For captures with pairwise distinct
    names that carry no `__k` occurrence suffix, `init C caps' strict = init C caps strict` for
    every permutation `caps'` of `caps` — the priority loop walks the class's own priorities table and
    looks captures up by name (`priorityLoop_congr`), and `__validate_format` is the identity on
    such captures (`validateFormat_id`).
  * `C05_repeated_directive`: a directive repeated with different texts is rejected in BOTH modes
    (`__validate_format`), for every class, whatever the texts are.
  * kernel-evaluated instances of the cross-checks (strict rejects a disagreeing month name, a
    disagreeing day-of-year, binary vs decimal serial, bits vs bytes; always-checked: lone weekday,
    AM/PM, bits vs bytes, initials) on the regenerated tables.
  "Strict succeeds exactly when all statements agree" for all values is decided by the sweep with
  an independent statement semantics; the recorded exceptions are in Findings.C05.
-/
namespace C05
open Py Engine

-- order independence --------------------------------------------------------------------------------

/-- the priority loop reads the captures through `alookup` only -/
theorem priorityLoop_congr {V} (C : Cls V) (f1 f2 : List (Str × Option Str)) (h : ∀ k, alookup k f1 = alookup k f2)
    (strict : Bool) (o : Obj) : priorityLoop C f1 strict o = priorityLoop C f2 strict o := by
  unfold priorityLoop
  congr 1
  funext o e
  simp only [prioStep, h]

theorem alookup_none_of_not_mem {β} (k : Str) (l : List (Str × β)) (h : k ∉ l.map (·.1)) : alookup k l = none := by
  induction l with
  | nil => rfl
  | cons p rest ih =>
    simp only [List.map, List.mem_cons, not_or] at h
    simp only [alookup]
    rw [if_neg (fun e => h.1 e.symm)]
    exact ih h.2

/-- lookups in an association list with distinct keys do not depend on the order of the entries -/
theorem alookup_perm {β} (k : Str) {l1 l2 : List (Str × β)} (hp : l1.Perm l2) (hn : (l1.map (·.1)).Nodup) :
    alookup k l1 = alookup k l2 := by
  induction hp with
  | nil => rfl
  | cons x _ ih => simp_all [alookup]
  | swap x y l =>
    simp only [List.map, List.nodup_cons, List.mem_cons, not_or] at hn
    simp only [alookup]
    split <;> split <;> simp_all
  | trans p1 _ ih1 ih2 => rw [ih1 hn, ih2 ((p1.map _).nodup_iff.mp hn)]

/-- captures without an occurrence suffix -/
def Plain (gd : List (Str × Option Str)) : Prop := ∀ p ∈ gd, splitFirst p.1 ['_', '_'] = p.1

theorem validateFormat_go (gd acc : List (Str × Option Str)) (hp : Plain gd) (hn : ((acc ++ gd).map (·.1)).Nodup) :
    gd.foldlM validateStep acc = .ok (acc ++ gd) := by
  induction gd generalizing acc with
  | nil => simp
  | cons p rest ih =>
    have hstep : validateStep acc p = .ok (acc ++ [p]) := by
      have : p.1 ∉ acc.map (·.1) := by
        intro h
        rw [List.map_append, List.nodup_append] at hn
        exact hn.2.2 _ h _ (by simp) rfl
      simp only [validateStep, hp p (by simp), alookup_none_of_not_mem _ _ this]
    rw [foldlM_cons_ok _ _ _ _ _ hstep, ih _ (fun q hq => hp q (by simp [hq])) (by simpa using hn)]
    simp

/-- `__validate_format` keeps captures that carry no occurrence suffix and have distinct names -/
theorem validateFormat_id (gd : List (Str × Option Str)) (hp : Plain gd) (hn : (gd.map (·.1)).Nodup) :
    validateFormat gd = .ok gd := by
  simpa [validateFormat] using validateFormat_go gd [] hp (by simpa using hn)

/-- **order independence**: for every formatter class and both modes, permuting the captures does not
    change the object that is built (or the error that is raised) -/
theorem C05_order {V} (C : Cls V) (caps caps' : List (Str × Option Str)) (hperm : caps'.Perm caps)
    (hp : Plain caps) (hn : (caps.map (·.1)).Nodup) (strict : Bool) :
    init C caps' strict = init C caps strict := by
  have hp' : Plain caps' := fun p h => hp p (hperm.mem_iff.mp h)
  have hn' : (caps'.map (·.1)).Nodup := (List.Perm.nodup_iff (List.Perm.map _ hperm)).mpr hn
  unfold init
  rw [validateFormat_id caps hp hn, validateFormat_id caps' hp' hn']
  simp only [Except.ok_bind]
  rw [priorityLoop_congr C caps' caps (fun k => alookup_perm k hperm hn') strict]

/-- a directive repeated with two different texts is rejected in both modes, whatever the class:
    the second occurrence `name__1` is merged with `name` by `__validate_format` and must be equal -/
theorem C05_repeated_directive {V} (C : Cls V) (name occ : Str) (hname : splitFirst name ['_', '_'] = name)
    (hocc : splitFirst occ ['_', '_'] = name) (a b : Str) (hab : a ≠ b) (strict : Bool) :
    init C [(name, some a), (occ, some b)] strict = .error .fmtValue := by
  simp [init, validateFormat, validateStep, hname, hocc, alookup, hab]

/-- the occurrence names `gen_format` produces do map back: `name__1`, `name__2`, … -/
theorem C05_occurrence_names :
    splitFirst "month_pad__1".toList ['_', '_'] = "month_pad".toList
  ∧ splitFirst "number__2".toList ['_', '_'] = "number".toList
  ∧ splitFirst "strings_snake__10".toList ['_', '_'] = "strings_snake".toList := by decide

-- the cross-checks themselves, on the regenerated tables (kernel evaluation) ---------------------------

def outcome {V} (C : Cls V) (text fmt : String) (strict : Bool) : Option Str :=
  match Engine.parse C text.toList (some fmt.toList) strict with
  | .ok o => some (C.string o)
  | .error .fmtValue => none
  | .error _ => some "FOREIGN".toList

/-- strict mode cross-checks different directives of one field; non-strict keeps the first statement -/
theorem C05_strict_cross_checks :
    outcome Datetime.cls "2023 09 Sep" "%Y %m %b" true = some "2023-09-01 00:00:00.000000".toList
  ∧ outcome Datetime.cls "2023 09 Oct" "%Y %m %b" true = none
  ∧ outcome Datetime.cls "2023 09 Oct" "%Y %m %b" false = some "2023-09-01 00:00:00.000000".toList
  ∧ outcome Datetime.cls "2023 251 09 08" "%Y %j %m %d" true = some "2023-09-08 00:00:00.000000".toList
  ∧ outcome Datetime.cls "2023 252 09 08" "%Y %j %m %d" true = none
  ∧ outcome Datetime.cls "19 07 PM" "%H %I %p" true = some "1900-01-01 19:00:00.000000".toList
  ∧ outcome Datetime.cls "18 07 PM" "%H %I %p" true = none
  ∧ outcome Serial.cls "5 00000101" "%n %b" true = some "5".toList
  ∧ outcome Serial.cls "5 00000110" "%n %b" true = none
  ∧ outcome Serial.cls "1000 1,000 1_000" "%n %c %u" true = some "1000".toList := by decide +kernel

/-- checked in non-strict mode too: a lone weekday, AM/PM, bits against bytes, initials / flat /
    vowel-less against the name -/
theorem C05_always_checked :
    outcome Datetime.cls "2023-09-08 5" "%Y-%m-%d %w" false = some "2023-09-08 00:00:00.000000".toList
  ∧ outcome Datetime.cls "2023-09-08 4" "%Y-%m-%d %w" false = none
  ∧ outcome Datetime.cls "19 PM" "%H %p" false = some "1900-01-01 19:00:00.000000".toList
  ∧ outcome Datetime.cls "19 AM" "%H %p" false = none
  ∧ outcome Storage.cls "8192 1KB" "%b %K" false = some "8192".toList
  ∧ outcome Storage.cls "8200 1KB" "%b %K" false = none
  ∧ outcome Naming.cls "data engineer/de" "%n/%a" false = some "data engineer".toList
  ∧ outcome Naming.cls "data engineer/dx" "%n/%a" false = none
  ∧ outcome Naming.cls "data_engineer/dataengineer" "%s/%f" false = some "data engineer".toList
  ∧ outcome Naming.cls "data_engineer/dtngnr" "%s/%v" false = some "data engineer".toList
  ∧ outcome Naming.cls "data_engineer/dtngnx" "%s/%v" false = none := by decide +kernel

end C05
