import FmtModel.Esc
import FmtModel.Lemmas.ReHead
/-
  C19 — bytes equal text as input; escaping makes literal text match itself.

  `C19_unescape_escape`  : for EVERY string t, unescape(re.escape(t)) = t (induction over t; the interpreter's
                           escape set, regenerated by probing re.escape, contains the backslash).
  `C19_literal_only`     : for EVERY t and s, the regex `litRE t` (one single-character class per character of t)
                           matches s entirely iff s = t — "matches t and nothing else".
  `C19_escape_parses_ascii`, `C19_escape_parses_pairs` : the pattern text re.escape produces is read by the regex
                           parser as `litRE t` — for every one-character string over ASCII 0..127 and every
                           two-character string over the metacharacter alphabet (kernel evaluation).
  `C19_utf8_roundtrip`   : for EVERY string s, strict UTF-8 decoding of its encoding gives s back, hence
  `C19_bytes_equal_text` : an entry point that goes through bytes2str gets the same text from the bytes as from
                           the str; anything else is TypeError.
  `C19_entry_points`     : all ten parse entry points (five formatters, constants, groups, three version classes)
                           decode bytes and raise TypeError on other types — probed on /repo by the translator.
  `C19_escape_group_instances` : escape_fmt_group keeps placeholders and escapes the rest (kernel-evaluated).
-/
namespace C19
open Py Esc

/-- one escaped character is read back as itself: the backslash is in the escape set, so an unescaped character
    is not one -/
theorem unescape_escape1 (c : Char) (l : Str) :
    unescape ((if Gen.re_escape_chars.contains c then ['\\', c] else [c]) ++ l) = c :: unescape l := by
  split
  · simp [unescape]
  · have : c ≠ '\\' := by rintro rfl; contradiction
    cases l <;> simp [unescape, this]

/-- **unescape inverts re.escape, for every string** -/
theorem C19_unescape_escape : ∀ (t : Str), unescape (reEscape t) = t
  | [] => rfl
  | c :: cs => by
    have ih := C19_unescape_escape cs
    unfold reEscape at ih ⊢
    rw [List.flatMap_cons, unescape_escape1, ih]

theorem inCls_single (c x : Char) : inCls [.range c c] false x = decide (x = c) := by
  simp [inCls, has_single, BEq.beq]

/-- `litRE (c :: cs)` reads `c`, then `litRE cs`: the singleton clause of the definition is the case `cs = []` -/
theorem ms_lit_cons (c : Char) (cs : Str) (tot : Nat) (s : Str) (cp : Caps) :
    ms (litRE (c :: cs)) tot s cp = match s with | [] => [] | x :: xs => if x = c then ms (litRE cs) tot xs cp else [] := by
  cases cs <;> cases s <;> simp [litRE, ms, inCls_single] <;> split <;> simp

/-- `litRE t` consumes exactly the prefix t -/
theorem ms_lit (t s : Str) (tot : Nat) (cp : Caps) :
    ms (litRE t) tot s cp = if t.isPrefixOf s then [(s.drop t.length, cp)] else [] := by
  induction t generalizing s with
  | nil => simp [litRE, ms]
  | cons c cs ih =>
    rw [ms_lit_cons]
    cases s with
    | nil => simp
    | cons x xs =>
      by_cases h : x = c
      · simp [ih, h]
      · simp [h, Ne.symm h]

/-- **matches t and nothing else**: anchored at both ends, `litRE t` accepts s iff s = t -/
theorem C19_literal_only (t s : Str) (tot : Nat) (cp : Caps) :
    (∃ r ∈ ms (litRE t) tot s cp, r.1 = []) ↔ s = t := by
  rw [ms_lit]
  constructor
  · intro ⟨r, hr, he⟩
    split at hr
    · rename_i hp
      obtain ⟨u, rfl⟩ := List.isPrefixOf_iff_prefix.mp hp
      simp at hr
      simp_all
    · simp at hr
  · rintro rfl
    exact ⟨([], cp), by simp [List.isPrefixOf_iff_prefix], rfl⟩

/-- re.escape's output is read by the regex parser as the literal sequence: every one-character string over ASCII -/
theorem C19_escape_parses_ascii :
    ((List.range 128).all fun n => parseRegex (reEscape [Char.ofNat n]) == some (litRE [Char.ofNat n])) = true := by decide +kernel

def metaAlphabet : Str := "\\.^$*+?{}[]()|-#&~ %:/aZ09_é中".toList

/-- … and every two-character string over the metacharacter alphabet (incl. backslash, braces, percent, space, non-ASCII) -/
theorem C19_escape_parses_pairs :
    (metaAlphabet.all fun a => metaAlphabet.all fun b => parseRegex (reEscape [a, b]) == some (litRE [a, b])) = true := by
  decide +kernel

-- UTF-8 ------------------------------------------------------------------------------------------------

theorem isCont_mod (k : Nat) : isCont (0x80 + k % 64) = true := by
  simp only [isCont, Bool.and_eq_true, decide_eq_true_eq]; omega

/-- in each branch the decoder recombines the base-64 digits of the code point (`e2`..`e4`); the guards `g` are
    linear arithmetic from the branch conditions -/
theorem decode_encodeChar (c : Char) (rest : List Nat) :
    decode (encodeChar c ++ rest) = (decode rest).map (c :: ·) := by
  rw [encodeChar]
  generalize hn : c.toNat = v
  have e2 (v : Nat) : v / 64 * 64 + v % 64 = v := by omega
  have e3 (v : Nat) : v / 4096 * 4096 + v / 64 % 64 * 64 + v % 64 = v := by omega
  have e4 (v : Nat) : v / 262144 * 262144 + v / 4096 % 64 * 4096 + v / 64 % 64 * 64 + v % 64 = v := by omega
  have hc : Char.ofNat v = c := by simp [← hn]
  have hv : v < 0xD800 ∨ (0xDFFF < v ∧ v < 0x110000) := hn ▸ c.valid
  split
  · rw [List.cons_append, decode.eq_def]
    simp [*]
  split
  · rw [List.cons_append, decode.eq_def]
    have g : ¬ (0xC0 + v / 64 < 0x80) ∧ 0xC2 ≤ 0xC0 + v / 64 ∧ 0xC0 + v / 64 < 0xE0 := by omega
    simp [isCont_mod, g, hc, e2]
  split
  · rw [List.cons_append, decode.eq_def]
    have g : ¬ (0xE0 + v / 4096 < 0x80) ∧ ¬ (0xC2 ≤ 0xE0 + v / 4096 ∧ 0xE0 + v / 4096 < 0xE0) ∧ 0xE0 ≤ 0xE0 + v / 4096
        ∧ 0xE0 + v / 4096 < 0xF0 ∧ 0x800 ≤ v := by omega
    simp [isCont_mod, g, hc, e3]
    omega  -- no surrogate: `Char.valid`
  · rw [List.cons_append, decode.eq_def]
    have g : ¬ (0xF0 + v / 262144 < 0x80) ∧ ¬ (0xC2 ≤ 0xF0 + v / 262144 ∧ 0xF0 + v / 262144 < 0xE0)
        ∧ ¬ (0xE0 ≤ 0xF0 + v / 262144 ∧ 0xF0 + v / 262144 < 0xF0) ∧ 0xF0 ≤ 0xF0 + v / 262144
        ∧ 0xF0 + v / 262144 < 0xF5 ∧ 0x10000 ≤ v ∧ v < 0x110000 := by omega
    simp [isCont_mod, g, hc, e4]

/-- **strict UTF-8 decoding inverts encoding, for every string** -/
theorem C19_utf8_roundtrip : ∀ (s : Str), decode (encode s) = .ok s
  | [] => rfl
  | c :: cs => by
    have ih := C19_utf8_roundtrip cs
    unfold encode at ih ⊢
    simp only [List.flatMap_cons]
    rw [decode_encodeChar, ih]
    rfl

/-- **bytes equal text**: bytes2str gives the same text for the UTF-8 bytes of s as for s; anything else is TypeError -/
theorem C19_bytes_equal_text (s : Str) : bytes2str (.bytes (encode s)) = bytes2str (.str s) ∧ bytes2str .other = .error .pyType :=
  ⟨C19_utf8_roundtrip s, rfl⟩

/-- every parse entry point decodes bytes and refuses other types (probed on /repo's current code) -/
theorem C19_entry_points :
    Gen.entry_points_decode_bytes = Gen.entry_points ∧ Gen.entry_points_type_error = Gen.entry_points
  ∧ Gen.entry_points.length = 10 := by decide

/-- the shape of unescape and escape_fmt_group the model transcribes (read from the source by the translator) -/
theorem C19_source_shape :
    Gen.unescape_pattern = "\\\\(.)".toList ∧ Gen.unescape_repl = "\\1".toList ∧ Gen.unescape_dotall = true
  ∧ Gen.escape_uses_re_escape = true := by decide

def esc! (s : String) : Option String := (escapeFmtGroup s.toList).map String.ofList

theorem C19_escape_group_instances :
    esc! "+file_{datetime:%Y-%m-%d}_{naming:%n}.json" = some "\\+file_{datetime:%Y-%m-%d}_{naming:%n}\\.json"
  ∧ esc! "a.b" = some "a\\.b" ∧ esc! "{name}" = some "{name}" ∧ esc! "{x:%n}{x:%n}|{y}" = some "{x:%n}{x:%n}\\|{y}"
  ∧ esc! "100% {a b}" = some "100%\\ {a b}" ∧ esc! "" = some "" := by decide +kernel

end C19
