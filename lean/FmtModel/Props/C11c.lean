import FmtModel.Props.C11a
namespace C11
theorem C11_pre_strict : ∀ lead ∈ ["", "."], ∀ l ∈ preLetters, ∀ i ∈ inners, preTerm lead l i "12" true = true := by
  simp only [preTerm, mirrors, String.toList_append, String.reduceToList]
  decide +kernel
end C11
