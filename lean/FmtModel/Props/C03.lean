import FmtModel.Members
/-
  C03 — a formatter group behaves as the product of its members.

  Kernel-evaluated on the regenerated tables, on a declaration whose member names are prefixes of one another
  (`date`, `datetime`, `date_time`) in two declaration orders:
  `C03_members`     : every member of the parsed group is what the member's own formatter reads from its own slice
                      (`memberAgrees` compares with `Engine.parse` of the member class on the slice), whatever the
                      declaration order; a member the format omits is the member's default;
  `C03_default_fmt` : a placeholder without a format uses the member's base format;
  `C03_repeats`     : repeated occurrences that agree are merged, occurrences that disagree are rejected;
  `C03_repeats_inner`: the same when a directive is repeated inside a repeated occurrence (captures of different
                      occurrences are kept apart);
  `C03_tag_keeps_field`, `C03_tags_apart`, `C03_single_occurrence` (general, by induction): tagging a capture key
                      with its occurrence never changes the field it maps back to and never merges two keys;
  `C03_format`      : formatting is the members' renderings joined by the literal text, and parsing what was printed
                      gives the same group back;
  `C03_literal`     : escaped literal text with regex metacharacters around the placeholders matches itself;
  `C03_unknown`     : a placeholder that names no member is rejected.
  The statement for all declarations, names, orders, formats and values is decided by the sweep (the members' own
  parse/format as the reference for every slice) and by the correspondence (group.* ops).
-/
namespace Py

/-- the first piece of a split on `__` is decided before the tag is reached: a key not ending in `_` cannot share
    a separator with the tag -/
theorem splitGo_head_append : ∀ (k cur g : Str), k.getLast? ≠ some '_' →
    (splitGo ['_', '_'] 0 cur (k ++ ['_', '_'] ++ g)).headD [] = (splitGo ['_', '_'] 0 cur k).headD []
  | [], cur, g, _ => by simp [splitGo, List.isPrefixOf]
  | [c], cur, g, h => by
    have hc : c ≠ '_' := by simpa using h
    simp [splitGo, List.isPrefixOf, Ne.symm hc]
  | c :: d :: ds, cur, g, h => by
    have ih := splitGo_head_append (d :: ds) (c :: cur) g (by simpa [List.getLast?_cons_cons] using h)
    simp only [List.cons_append] at ih ⊢
    have hp : (['_', '_'] : Str).isPrefixOf (c :: d :: (ds ++ ['_', '_'] ++ g)) = (['_', '_'] : Str).isPrefixOf (c :: d :: ds) := by
      simp [List.isPrefixOf]
    unfold splitGo
    rw [hp]
    split
    · rfl
    · exact ih

end Py

namespace C03
open Py Engine Group

def dA : Decl := [Members.serial "date".toList, Members.naming "datetime".toList, Members.version "date_time".toList]
def dB : Decl := [Members.version "date_time".toList, Members.naming "datetime".toList, Members.serial "date".toList]

def gshow (d : Decl) (g : GObj) : List (Str × Str) :=
  d.map fun m => (m.name, match alookup m.name g with | some o => m.cls.string o | none => ['?'])

/-- the members of the parsed group as (name, canonical string) in declaration order, or the error -/
def gparse (d : Decl) (text fmt : String) : R (List (Str × Str)) :=
  (Group.parse d text.toList fmt.toList).map (gshow d)

def mem (l : List (String × String)) : R (List (Str × Str)) := .ok (l.map fun p => (p.1.toList, p.2.toList))

def gfmt (d : Decl) (text fmt fmt2 : String) : String :=
  match (do let g ← Group.parse d text.toList fmt.toList; Group.format d g fmt2.toList) with
  | .ok s => String.ofList s
  | .error e => "err:" ++ e.name

/-- the member `name` of the parsed group is the object the member's own class parses from `slice` with `mfmt` -/
def memberAgrees (d : Decl) (text fmt name slice mfmt : String) : Bool :=
  match Group.parse d text.toList fmt.toList, d.find name.toList with
  | .ok g, some m =>
    (match alookup name.toList g, Engine.parse m.cls slice.toList (some mfmt.toList) false with
     | some o, .ok o' => decide (o = o')
     | _, _ => false)
  | _, _ => false

theorem C03_members :
    (∀ d ∈ [dA, dB],
        memberAgrees d "12/data_engineer/1.2.3" "{date:%n}/{datetime:%s}/{date_time:%m.%n.%c}" "date" "12" "%n" = true
      ∧ memberAgrees d "12/data_engineer/1.2.3" "{date:%n}/{datetime:%s}/{date_time:%m.%n.%c}" "datetime" "data_engineer" "%s" = true
      ∧ memberAgrees d "12/data_engineer/1.2.3" "{date:%n}/{datetime:%s}/{date_time:%m.%n.%c}" "date_time" "1.2.3" "%m.%n.%c" = true
      ∧ memberAgrees d "1.2.3@DataEngineer@007" "{date_time:%m.%n.%c}@{datetime:%p}@{date:%p}" "datetime" "DataEngineer" "%p" = true
      ∧ memberAgrees d "1.2.3@DataEngineer@007" "{date_time:%m.%n.%c}@{datetime:%p}@{date:%p}" "date" "007" "%p" = true)
  ∧ gparse dA "12/data_engineer/1.2.3" "{date:%n}/{datetime:%s}/{date_time:%m.%n.%c}" = mem [("date", "12"), ("datetime", "data engineer"), ("date_time", "v1.2.3")]
  ∧ gparse dB "12/data_engineer/1.2.3" "{date:%n}/{datetime:%s}/{date_time:%m.%n.%c}" = mem [("date_time", "v1.2.3"), ("datetime", "data engineer"), ("date", "12")] := by
  decide +kernel

theorem C03_default_fmt :
    gparse dA "1.2.3#data engineer" "{date_time:%m.%n.%c}#{datetime}" = mem [("date", "0"), ("datetime", "data engineer"), ("date_time", "v1.2.3")] := by
  decide +kernel

theorem C03_repeats :
    gparse dA "7#7" "{date:%n}#{date:%n}" = mem [("date", "7"), ("datetime", ""), ("date_time", "v0.0.0")]
  ∧ gparse dA "7#8" "{date:%n}#{date:%n}" = .error .fmtValue
  ∧ gparse dA "1.2.3@1.2.4" "{date_time:%m.%n.%c}@{date_time:%m.%n.%c}" = .error .fmtValue := by decide +kernel

/-- a directive repeated inside an occurrence that is itself repeated: the captures of the occurrences are kept
    apart (`Gen.group_merge_apart`, read off the code's behaviour by the translator), so every statement of the field
    takes part in the agreement check - whichever position disagrees, the string is refused -/
theorem C03_repeats_inner :
    Gen.group_merge_apart = true
  ∧ gparse dA "7 7#7 7" "{date:%n %n}#{date:%n %n}" = mem [("date", "7"), ("datetime", ""), ("date_time", "v0.0.0")]
  ∧ gparse dA "7 8#7 7" "{date:%n %n}#{date:%n %n}" = .error .fmtValue
  ∧ gparse dA "7 7#8 7" "{date:%n %n}#{date:%n %n}" = .error .fmtValue
  ∧ gparse dA "7 7#7 8" "{date:%n %n}#{date:%n %n}" = .error .fmtValue
  ∧ gparse dA "7#7 7#7 7 7" "{date:%n}#{date:%n %n}#{date:%n %n %n}" = mem [("date", "7"), ("datetime", ""), ("date_time", "v0.0.0")]
  ∧ gparse dA "7#7 7#7 8 7" "{date:%n}#{date:%n %n}#{date:%n %n %n}" = .error .fmtValue
  ∧ gparse dA "7#7 8#7 7 7" "{date:%n}#{date:%n %n}#{date:%n %n %n}" = .error .fmtValue := by
  refine ⟨?_, ?_, ?_, ?_, ?_, ?_, ?_, ?_⟩ <;> decide +kernel

/-- (general) the field a capture maps back to (`key.split("__", 1)[0]`) does not depend on the occurrence the key is
    tagged with: for every key that does not end in an underscore and every occurrence name -/
theorem C03_tag_keeps_field (k g : Str) (h : k.getLast? ≠ some '_') :
    splitFirst (k ++ ['_', '_'] ++ g) ['_', '_'] = splitFirst k ['_', '_'] := by
  simpa [splitFirst, splitOn] using splitGo_head_append k [] g h

/-- (general) tagged keys stay apart: inside one occurrence, and between occurrences whose names are equally long -/
theorem C03_tags_apart (k1 k2 g1 g2 : Str) (hl : g1.length = g2.length)
    (h : k1 ++ ['_', '_'] ++ g1 = k2 ++ ['_', '_'] ++ g2) : k1 = k2 ∧ g1 = g2 :=
  have := List.append_inj' h hl
  ⟨List.append_cancel_right this.1, this.2⟩

/-- (general) one occurrence: the member's merged mapping is that occurrence's captures, every key tagged with it -/
theorem C03_single_occurrence (g : Str) (caps : List (Str × Option Str)) :
    mergeOccurrences [(g, caps)] =
      [(splitFirst g ['_', '_'], caps.foldl (fun a kv => ainsert (kv.1 ++ ['_', '_'] ++ g) kv.2 a) [])] := by
  simp [mergeOccurrences, Gen.group_merge_apart, alookup, ainsert]

example : ("day_pad__1".toList : Str).getLast? ≠ some '_' := by decide   -- the hypothesis is met by real capture names

theorem C03_format :
    gfmt dA "12/data_engineer/1.2.3" "{date:%n}/{datetime:%s}/{date_time:%m.%n.%c}" "{datetime:%c}-{date:%p}+{date_time:%f}" = "dataEngineer-012+1_2_3"
  ∧ gfmt dA "12/data_engineer/1.2.3" "{date:%n}/{datetime:%s}/{date_time:%m.%n.%c}" "{date:%n}/{datetime:%s}/{date_time:%m.%n.%c}" = "12/data_engineer/1.2.3" := by
  decide +kernel

theorem C03_literal : gparse dA "+file(12).json" "\\+file\\({date:%n}\\)\\.json" = mem [("date", "12"), ("datetime", ""), ("date_time", "v0.0.0")] := by
  decide +kernel

theorem C03_unknown : gparse dA "12/x" "{date:%n}/{nope:%n}" = .error .grpArg := by decide +kernel

end C03
