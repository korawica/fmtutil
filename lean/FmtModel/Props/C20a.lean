import FmtModel.Members
import FmtModel.Assets
import FmtModel.Props.C12
/-
  C20 — every directive table is well formed.

  Everything here is kernel evaluation (`decide +kernel`) of decidable well-formedness predicates on
  the tables regenerated from the source on this run; a table that stops being well formed makes
  the corresponding theorem fail.
  * `C20_tables`      every directive of the five built-in classes has a pattern that parses, whose
                      named groups are all priorities the class interprets, whose field is a slot;
  * `C20_renderers`   every directive has a renderer (on a sample value of the class);
  * `C20_composites`  composite directives expand to exactly their parts;
  * `C20_assets`      the same for the asset-defined classes; their tokenisers are the classic ones;
  * `C20_pairs_*`     for every ordered pair of directives of a class (alone and under a group
                      prefix/suffix) the generated pattern compiles with pairwise distinct capture
                      names that map back to priorities — the complete length-2 grammar;
  * `C20_convert`     `convert_fmt_str` is injective on the 260 spellings %x %-x %+x %!x %*x and never
                      produces `_`; the character set escaped in constant patterns is exactly the
                      regex special characters.
  Unbounded sequences (any length, any repetition) are validated by the sweep, not proved.
-/
namespace C20
open Py Engine

def rowOk {V} (C : Cls V) (table : List (Str × Str)) (row : DirRow) : Bool :=
  match alookup row.1 table with
  | some rx =>
    match compileRe rx with
    | .ok r => !r.names.isEmpty &&
        r.names.all fun g => C.priorities.any (·.1 == g) && C.slots.contains (splitFirst g ['_'])
    | .error _ => false
  | none => false

def tableOk {V} (C : Cls V) : Bool :=
  match regexTable C.rows with
  | .ok t => C.rows.all (rowOk C t)
  | .error _ => false

theorem C20_tables :
    tableOk Serial.cls = true ∧ tableOk Datetime.cls = true ∧ tableOk Version.cls = true
  ∧ tableOk Naming.cls = true ∧ tableOk Storage.cls = true := by decide +kernel

def hasRenderer {V} (C : Cls V) (v : V) : Bool :=
  C.rows.all fun row => match C.render row.1 v with | .error .pyKey => false | _ => true

theorem C20_renderers :
    hasRenderer Serial.cls 7 = true
  ∧ hasRenderer Datetime.cls { year := 2023, month := 9, day := 8, hour := 7, minute := 6, second := 5, micro := 4 } = true
  ∧ hasRenderer Version.cls { cls := .pkg, major := 1, minor := 2, patch := 3 } = true
  ∧ hasRenderer Naming.cls ["data".toList, "engineer".toList] = true
  ∧ hasRenderer Storage.cls { coeff := 8192, exp := 0 } = true := by decide +kernel

/-- expansion of a composite directive: the concatenation of its parts' patterns and literals -/
def expands {V} (C : Cls V) (d : String) (parts : List String) : Bool :=
  match regexTable C.rows with
  | .ok t =>
    alookup d.toList t == some ((parts.map fun p => (alookup p.toList t).getD p.toList).foldr (· ++ ·) [])
  | .error _ => false

theorem C20_composites :
    expands Datetime.cls "%n" ["%Y", "%m", "%d", "_", "%H", "%M", "%S"] = true
  ∧ expands Version.cls "%f" ["%m", "_", "%n", "_", "%c"] = true
  ∧ expands Version.cls "%-f" ["%m", "-", "%n", "-", "%c"] = true
  ∧ expands Naming.cls "%n" ["%l"] = true ∧ expands Naming.cls "%N" ["%u"] = true
  ∧ expands Naming.cls "%-N" ["%t"] = true ∧ expands Naming.cls "%-c" ["%p"] = true
  ∧ expands Naming.cls "%-K" ["%T"] = true := by decide +kernel

def assetOk (rows : List Assets.ARow) : Bool :=
  match Assets.regexTable rows with
  | .ok t => rows.all fun row =>
      match alookup row.1 t with
      | some rx =>
        (match compileRe rx with
         | .ok r => !r.names.isEmpty && r.names.all fun g => rows.any (·.2.1 == g)
         | .error _ => false)
      | none => false
  | .error _ => false

theorem C20_assets :
    assetOk Gen.asset_serial_rows = true ∧ assetOk Gen.asset_datetime_rows = true
  ∧ Gen.asset_gen_format_token_re = Gen.gen_format_token_re ∧ Gen.asset_gen_format_inner_re = Gen.gen_format_inner_re
  ∧ Gen.asset_anchor_pre = Gen.parse_anchor_pre ∧ Gen.asset_anchor_post = Gen.parse_anchor_post := by decide +kernel

/-- the pattern generated for a directive sequence compiles, its capture names are pairwise
    distinct, each carries the group prefix, and stripped of prefix and `__k` it is a priority -/
def seqOk {V} (C : Cls V) (table : List (Str × Str)) (pre suf : Str) (seq : List Str) : Bool :=
  match genFormat table (join ['_'] seq) pre suf with
  | .ok g =>
    (match compileRe g with
     | .ok r => r.names.all fun n =>
         startsWith n pre && C.priorities.any (·.1 == splitFirst (n.drop pre.length) ['_', '_'])
     | .error _ => false)
  | .error _ => false

def pairsOk {V} (C : Cls V) : Bool :=
  match regexTable C.rows with
  | .ok t =>
    let ks := C.rows.map (·.1)
    ks.all fun a => ks.all fun b =>
      seqOk C t [] [] [a, b] && seqOk C t "grp___".toList "__1".toList [a, b]
  | .error _ => false

-- the format strings are tokenised by the scanner instead of the regex engine (`C12.genFormat_genSpec`): the same
-- patterns, about a fifth cheaper to evaluate
theorem C20_pairs_serial : pairsOk Serial.cls = true := by
  simp only [pairsOk, seqOk, C12.genFormat_genSpec]
  decide +kernel
theorem C20_pairs_storage : pairsOk Storage.cls = true := by
  simp only [pairsOk, seqOk, C12.genFormat_genSpec]
  decide +kernel
theorem C20_pairs_version : pairsOk Version.cls = true := by
  simp only [pairsOk, seqOk, C12.genFormat_genSpec]
  decide +kernel

def spellings : List Str :=
  ['-', '+', '!', '*'].flatMap (fun p => ("abcdefghijklmnopqrstuvwxyzABCDEFGHIJKLMNOPQRSTUVWXYZ".toList.map fun c => ['%', p, c]))
    ++ ("abcdefghijklmnopqrstuvwxyzABCDEFGHIJKLMNOPQRSTUVWXYZ".toList.map fun c => ['%', c])

theorem C20_convert :
    ((spellings.map Const.convertFmtStr).eraseDups.length = 260)
  ∧ ((spellings.map Const.convertFmtStr).all fun n => !n.contains '_' && !n.contains '%') = true
  ∧ Gen.const_escape_chars = "$()*+.?[\\]^{|}".toList := by decide +kernel

end C20
