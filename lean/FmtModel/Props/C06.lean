import FmtModel.Members
import FmtModel.Assets
import FmtModel.Lemmas.Basic
/-
  C06 — bad input is rejected completely and only with FormatterError.

  (a) whole string.  `C06_anchored` (general, any pattern `g`, any input): if the compiled pattern has
      the anchored shape `^ g \Z`, every successful search starts at the first character and leaves
      nothing unread — so an accepted string matches from first to last character and cannot be
      extended by a leading or trailing character (a newline included) unless the longer string itself
      matches.  `C06_anchors` pins the anchors `parse` really uses (classic engine, groups, asset
      engine) to `^` and `\Z` on the regenerated tables, and `C06_shape_base` checks the compiled
      pattern of every class's base format has that shape.  With `$` instead of `\Z` the theorem is
      false (witness: "12\n"); this was the defect repaired in /repo commit 8f80d0b.
  (b) exception family.  `C06_wrap` : whatever the constructor raises from Python's ValueError /
      ArithmeticError family (impossible dates, empty numbers, InvalidOperation, OverflowError) leaves
      `parse` as FormatterValueError; `C06_named` evaluates the impossible values the property names.
      That no OTHER foreign kind can arise from any string of any directive sequence is decided by
      the sweep over the pattern languages and by the correspondence (error kinds are compared).
-/
namespace C06
open Py Engine

/-- the right spine of a concatenation ends in `\Z` -/
def endsEos : RE → Bool
  | .eos => true
  | .seq _ b => endsEos b
  | _ => false

theorem ms_endsEos {x : RE} (hx : endsEos x = true) (t : Nat) (s : Str) (c : Caps) : ∀ p ∈ ms x t s c, p.1 = [] := by
  induction x generalizing s c with
  | eos => cases s <;> simp [ms]
  | seq a b _ ih =>
    simp only [ms, List.mem_flatMap]
    rintro p ⟨q, _, hq⟩
    exact ih hx _ _ p hq
  | _ => simp [endsEos] at hx

/-- an anchored pattern matches only at offset 0 of the subject, and then consumes all of it -/
theorem matchAt_anchored {x : RE} (hx : endsEos x = true) {tot : Nat} {s : Str} {p : Str × Caps}
    (h : matchAt (.seq .bol x) tot s = some p) : s.length = tot ∧ p.1 = [] := by
  have hp : p ∈ ms (.seq .bol x) tot s [] := List.mem_of_mem_head? h
  by_cases hl : s.length = tot
  · simp only [ms, hl, ↓reduceIte, List.flatMap_cons, List.flatMap_nil, List.append_nil] at hp
    exact ⟨hl, ms_endsEos hx _ _ _ p hp⟩
  · simp [ms, hl] at hp

theorem searchFrom_anchored {x : RE} (hx : endsEos x = true) {tot : Nat} {s : Str} {i st : Nat} {rest : Str} {caps : Caps}
    (hl : s.length + i = tot) (h : searchFrom (.seq .bol x) tot i s = some (st, rest, caps)) : st = 0 ∧ rest = [] := by
  induction s generalizing i with
  | nil =>
    simp only [searchFrom, Option.map_eq_some_iff] at h
    obtain ⟨p, hp, he⟩ := h
    obtain ⟨h0, hr⟩ := matchAt_anchored hx hp
    simp only [Prod.mk.injEq] at he
    exact ⟨by simp at hl h0; omega, he.2.1 ▸ hr⟩
  | cons y ys ih =>
    simp only [searchFrom] at h
    split at h
    · next p hp =>
      obtain ⟨h0, hr⟩ := matchAt_anchored hx hp
      simp only [Option.some.injEq, Prod.mk.injEq] at h
      exact ⟨by omega, h.2.1 ▸ hr⟩
    · exact ih (by simp at hl ⊢; omega) h

/-- **whole string**: on a pattern of the shape `^ … \Z` a successful search spans the subject from its
    first to its last character, for every pattern body and every subject -/
theorem C06_anchored (x : RE) (hx : endsEos x = true) (s : Str) (st : Nat) (rest : Str) (caps : Caps)
    (h : search (.seq .bol x) s = some (st, rest, caps)) : st = 0 ∧ rest = [] :=
  searchFrom_anchored hx (Nat.add_zero _) h

/-- the anchors `parse` uses: classic engine, groups and asset engine all search `^ … \Z` -/
theorem C06_anchors :
    Gen.parse_anchor_pre = ['^'] ∧ Gen.parse_anchor_post = ['\\', 'Z']
  ∧ Gen.group_anchor_pre = ['^'] ∧ Gen.group_anchor_post = ['\\', 'Z']
  ∧ Gen.asset_anchor_pre = ['^'] ∧ Gen.asset_anchor_post = ['\\', 'Z'] := by decide

def isAnchored : RE → Bool
  | .seq .bol x => endsEos x
  | _ => false

/-- the compiled pattern of every class's base format has the anchored shape -/
theorem C06_shape_base :
    (match patternFor Serial.cls Serial.cls.baseFmt with | .ok r => isAnchored r | .error _ => false) = true
  ∧ (match patternFor Datetime.cls Datetime.cls.baseFmt with | .ok r => isAnchored r | .error _ => false) = true
  ∧ (match patternFor Version.cls Version.cls.baseFmt with | .ok r => isAnchored r | .error _ => false) = true
  ∧ (match patternFor Naming.cls Naming.cls.baseFmt with | .ok r => isAnchored r | .error _ => false) = true
  ∧ (match patternFor Storage.cls Storage.cls.baseFmt with | .ok r => isAnchored r | .error _ => false) = true := by
  decide +kernel

/-- **`parse` accepts only whole-string matches**: for every formatter class, input, format and mode, if
    the compiled pattern is anchored (it is, for formats assembled from directives and inert separators:
    `C06_shape_base` and the sweep) then an accepted string matched from first to last character -/
theorem C06_whole_string {V} (C : Cls V) (s : Str) (fmt : Option Str) (strict : Bool) (o : Obj) (r : RE)
    (hr : patternFor C (fmtOrBase C fmt) = .ok r) (ha : isAnchored r = true)
    (h : Engine.parse C s fmt strict = .ok o) : ∃ caps, search r s = some (0, [], caps) := by
  match r, ha with
  | .seq .bol x, hx =>
    simp only [Engine.parse, hr, parseWith, Except.ok_bind] at h
    split at h
    · cases h
    · next st rest caps hs =>
      obtain ⟨rfl, rfl⟩ := C06_anchored x hx s st rest caps hs
      exact ⟨caps, hs⟩

/-- with `$` the statement is false: the witness that made the repair necessary -/
theorem C06_dollar_counterexample :
    (search (.seq .bol (.seq (.star (.cls [.range '0' '9'] false)) .eol)) "12\n".toList).isSome = true
  ∧ (search (.seq .bol (.seq (.star (.cls [.range '0' '9'] false)) .eos)) "12\n".toList).isSome = false := by
  decide +kernel

/-- **exception family, the mechanism**: nothing of Python's ValueError / ArithmeticError family leaves
    `parse`; it is reported as FormatterValueError -/
theorem C06_wrap {α} (r : R α) :
    wrapValueErrors r ≠ .error .pyValue ∧ wrapValueErrors r ≠ .error .decInvalid ∧ wrapValueErrors r ≠ .error .pyOverflow
  ∧ (∀ e, r = .error e → e.isFormatterError = true → wrapValueErrors r = r) ∧ (∀ a, r = .ok a → wrapValueErrors r = r) := by
  cases r with
  | ok a => simp [wrapValueErrors]
  | error e => cases e <;> simp [wrapValueErrors, Err.isFormatterError]

def rejectedWith {V} (C : Cls V) (text fmt : String) (strict : Bool) : Option Err :=
  match (do let o ← Engine.parse C text.toList (some fmt.toList) strict; let _ ← C.value o; pure ()) with
  | .ok _ => none
  | .error e => some e

/-- the impossible values the property names are all reported with FormatterValueError -/
theorem C06_named : ∀ strict ∈ [false, true],
    rejectedWith Datetime.cls "2023-02-30" "%Y-%m-%d" strict = some .fmtValue
  ∧ rejectedWith Datetime.cls "25" "%H" strict = some .fmtValue
  ∧ rejectedWith Datetime.cls "61" "%M" strict = some .fmtValue
  ∧ rejectedWith Datetime.cls "39" "%d" strict = some .fmtValue
  ∧ rejectedWith Datetime.cls "0000" "%Y" strict = some .fmtValue
  ∧ rejectedWith Datetime.cls "2023 59 1" "%Y %U %w" strict = some .fmtValue
  ∧ rejectedWith Serial.cls "" "%b" strict = some .fmtValue
  ∧ rejectedWith Serial.cls "12\n" "%n" strict = some .fmtValue
  ∧ rejectedWith Storage.cls "" "%b" strict = some .fmtValue
  ∧ rejectedWith Storage.cls "B" "%B" strict = some .fmtValue
  ∧ rejectedWith Storage.cls "1x2" "%b" strict = some .fmtValue
  ∧ rejectedWith Version.cls "01.2.3" "%m.%n.%c" strict = some .fmtValue
  ∧ rejectedWith Datetime.cls "2023 09 Oct" "%Y %m %b" true = some .fmtValue := by decide +kernel

end C06
