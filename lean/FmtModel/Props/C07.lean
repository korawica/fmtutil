import FmtModel.Lemmas.VerOrder
/-
  C07 — version comparison is a consistent total preorder and agrees with hashing.

  Quantifier: all objects `a b c` of one version class whose comparison key exists
  (`akey · = .ok ·`; it exists for every object the class's parser returns — see the `example`s at
  the end and the correspondence sweep).  Numbers, tags and labels are unbounded.
  Only theorem statements and their proofs live here; helper lemmas are in `FmtModel/Lemmas`.
-/
namespace C07
open Ver Py Std

section Laws
variable {a b c : Obj} {ka kb kc : AKey}

/-- exactly one of `a < b`, `a == b`, `a > b` -/
theorem C07_trichotomy (hab : a.cls = b.cls) (ha : akey a = .ok ka) (hb : akey b = .ok kb) :
    ∃ l e g, richCmp .lt a (.obj b) = .ok l ∧ richCmp .eq a (.obj b) = .ok e ∧ richCmp .gt a (.obj b) = .ok g
      ∧ ((l = true ∧ e = false ∧ g = false) ∨ (l = false ∧ e = true ∧ g = false) ∨ (l = false ∧ e = false ∧ g = true)) := by
  have h := richCmp_obj hab ha hb
  refine ⟨_, _, _, h .lt, h .eq, h .gt, ?_⟩
  cases compare ka kb <;> simp [opHolds]

/-- `<=`, `>=`, `!=` are the derived relations -/
theorem C07_derived (hab : a.cls = b.cls) (ha : akey a = .ok ka) (hb : akey b = .ok kb) :
    ∃ l e g le ge ne, richCmp .lt a (.obj b) = .ok l ∧ richCmp .eq a (.obj b) = .ok e ∧ richCmp .gt a (.obj b) = .ok g
      ∧ richCmp .le a (.obj b) = .ok le ∧ richCmp .ge a (.obj b) = .ok ge ∧ richCmp .ne a (.obj b) = .ok ne
      ∧ le = (l || e) ∧ ge = (g || e) ∧ ne = !e := by
  have h := richCmp_obj hab ha hb
  refine ⟨_, _, _, _, _, _, h .lt, h .eq, h .gt, h .le, h .ge, h .ne, ?_⟩
  cases compare ka kb <;> simp [opHolds]

/-- `a < b` iff `b > a`, `a == b` iff `b == a` -/
theorem C07_mirror (hab : a.cls = b.cls) (ha : akey a = .ok ka) (hb : akey b = .ok kb) :
    ∃ x y, richCmp .lt a (.obj b) = .ok x ∧ richCmp .gt b (.obj a) = .ok x
         ∧ richCmp .eq a (.obj b) = .ok y ∧ richCmp .eq b (.obj a) = .ok y := by
  have h := richCmp_obj hab ha hb
  have h' := richCmp_obj hab.symm hb ha
  refine ⟨_, _, h .lt, ?_, h .eq, ?_⟩
  · rw [h' .gt, OrientedOrd.eq_swap (a := kb)]; cases compare ka kb <;> rfl
  · rw [h' .eq, OrientedOrd.eq_swap (a := kb)]; cases compare ka kb <;> rfl

/-- `<` is transitive -/
theorem C07_lt_trans (hab : a.cls = b.cls) (hbc : b.cls = c.cls) (ha : akey a = .ok ka) (hb : akey b = .ok kb) (hc : akey c = .ok kc) (h1 : richCmp .lt a (.obj b) = .ok true) (h2 : richCmp .lt b (.obj c) = .ok true) :
    richCmp .lt a (.obj c) = .ok true :=
  (richCmp_lt_iff (hab.trans hbc) ha hc).2 (TransCmp.lt_trans ((richCmp_lt_iff hab ha hb).1 h1) ((richCmp_lt_iff hbc hb hc).1 h2))

/-- `==` is reflexive -/
theorem C07_eq_refl (ha : akey a = .ok ka) : richCmp .eq a (.obj a) = .ok true :=
  (richCmp_eq_iff rfl ha ha).2 ReflCmp.compare_self

/-- `==` is transitive, and compatible with every operator on the left … -/
theorem C07_eq_congr_left (hab : a.cls = b.cls) (hbc : b.cls = c.cls) (ha : akey a = .ok ka) (hb : akey b = .ok kb) (hc : akey c = .ok kc) (h1 : richCmp .eq a (.obj b) = .ok true) (op : Op) :
    richCmp op a (.obj c) = richCmp op b (.obj c) := by
  rw [richCmp_obj (hab.trans hbc) ha hc, richCmp_obj hbc hb hc, TransCmp.congr_left ((richCmp_eq_iff hab ha hb).1 h1)]

/-- … and on the right -/
theorem C07_eq_congr_right (hab : a.cls = b.cls) (hbc : b.cls = c.cls) (ha : akey a = .ok ka) (hb : akey b = .ok kb) (hc : akey c = .ok kc) (h2 : richCmp .eq b (.obj c) = .ok true) (op : Op) :
    richCmp op a (.obj c) = richCmp op a (.obj b) := by
  rw [richCmp_obj (hab.trans hbc) ha hc, richCmp_obj hab ha hb, TransCmp.congr_right ((richCmp_eq_iff hbc hb hc).1 h2)]

end Laws

-- equal versions have equal hashes ---------------------------------------------------------------

/-- `a == b → hash(a) == hash(b)`: equal objects feed identical values to `hash` -/
theorem C07_hash {a b : Obj} {ka kb : AKey} (hab : a.cls = b.cls) (ha : akey a = .ok ka) (hb : akey b = .ok kb)
    (h : richCmp .eq a (.obj b) = .ok true) : hashRepr a = hashRepr b := by
  cases LawfulEqOrd.eq_of_compare ((richCmp_eq_iff hab ha hb).1 h)
  rw [hashRepr_eq_key, hashRepr_eq_key, key_eq_akey, key_eq_akey, ha, hb]

-- spellings ----------------------------------------------------------------------------------------

/-- comparing with the tuple or list spelling of `b` gives the same answer as comparing with `b` -/
theorem C07_spelling_tuple (a b : Obj) (h : a.cls = b.cls) :
    vcompare a (.tuple b.toArgs) = vcompare a (.obj b) := by
  obtain ⟨b', hb', hc', hk'⟩ := construct_toArgs b
  have : vcompare a (.tuple b.toArgs) = vcompare a (.obj b') := by
    unfold vcompare coerce
    simp only [h, hb', hc', ↓reduceIte]
  rw [this, vcompare_congr hc' hk']

-- semantic versions ----------------------------------------------------------------------------------

/-- build metadata never affects comparison: the key does not read it -/
theorem C07_sem_build_ignored (o : Obj) (x : Option Str) : semKey { o with build := x } = semKey o := rfl

/-- a pre-release sorts before its release -/
theorem C07_sem_prerelease_lt {a b : Obj} {ka : AKey} (ha : a.cls = .sem) (hb : b.cls = .sem)
    (hka : akey a = .ok ka)
    (hrel : a.major = b.major ∧ a.minor = b.minor ∧ a.patch = b.patch)
    (hpre : truthyStr a.pre = true) (hnopre : truthyStr b.pre = false) :
    richCmp .lt a (.obj b) = .ok true := by
  obtain ⟨h1, h2, h3⟩ := hrel
  have hkb : akey b = .ok (.sem (necessaryRelease [b.major, b.minor, b.patch], Sent.inf)) := by
    simp [akey, hb, semKey, hnopre]
  obtain ⟨p, rfl, hp⟩ := akey_sem ha hka
  rw [if_pos hpre] at hp
  obtain ⟨l, rfl⟩ := hp
  rw [richCmp_lt_iff (ha.trans hb.symm) hka hkb, compare_sem, compare_prod, h1, h2, h3]
  simp only [ReflCmp.compare_self, Ordering.then, cmp_vi]

/-- release numbers dominate pre-release tags -/
theorem C07_sem_release_dominates {a b : Obj} {ka kb : AKey} (ha : a.cls = .sem) (hb : b.cls = .sem)
    (hka : akey a = .ok ka) (hkb : akey b = .ok kb)
    (hrel : compare (necessaryRelease [a.major, a.minor, a.patch]) (necessaryRelease [b.major, b.minor, b.patch]) = .lt) :
    richCmp .lt a (.obj b) = .ok true := by
  obtain ⟨p, rfl, _⟩ := akey_sem ha hka
  obtain ⟨q, rfl, _⟩ := akey_sem hb hkb
  rw [richCmp_lt_iff (ha.trans hb.symm) hka hkb, compare_sem, compare_prod, hrel]
  rfl

-- non-vacuity: concrete objects meet the hypotheses ------------------------------------------------

def okTrue : R Bool → Bool
  | .ok true => true
  | _ => false

/-- two spellings of one PEP 440 version: keys exist, `==` holds, hashes agree -/
example : okTrue
    (do let a ← parse .pkg "1!2.0rc1.post2+abc.1".toList
        let b ← parse .pkg "1!2.0.0-c.1_rev2+abc-1".toList
        let _ ← akey a
        let _ ← akey b
        let e ← richCmp .eq a (.obj b)
        let ha ← hashRepr a
        let hb ← hashRepr b
        pure (e && pvEq ha hb && decide (a.cls = b.cls))) = true := by
  decide +kernel

example : okTrue
    (do let a ← parse .sem "1.0.0-RC1+x".toList
        let b ← parse .sem "1.0.0-rc.1".toList
        let _ ← akey a
        let _ ← akey b
        let e ← richCmp .eq a (.obj b)
        let l ← richCmp .lt a (.obj { b with pre := none })
        pure (e && l)) = true := by
  decide +kernel

end C07
