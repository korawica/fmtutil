import FmtModel.Lemmas.VerOrder
/-
  C04 — packaging versions are ordered as PEP 440 orders them.

  What is proved:
  * `C04_order`  : for ALL packaging objects whose key exists, `compare` returns the sign of the
                   lexicographic comparison of the PEP 440 key (epoch, release without trailing zeros,
                   pre, post, dev, local) with the sentinels placed as `packaging._cmpkey` places them;
  * `C04_key`    : the key the class builds is `Spec.cmpkey`, the transcription of `_cmpkey`;
  * `C04_letters`, `C04_segments`, `C04_implicit_post` : every spelling of a pre/post/dev segment of
                   the property's bounded grammar (8+3+1 letters x 4 x 4 separators x numbers
                   {absent,0,1,2,10}) and the implicit post form are read as PEP 440 normalises them —
                   the complete finite grammar, by kernel evaluation on the regenerated tables;
  * `C04_variants`: the spelling variants named in the property compare equal (end to end, through
                   the regenerated pattern).
  What is not proved here: that the regenerated pattern splits an arbitrary version string into
  these segments (validated exhaustively for small bounds against the vendored reference).
-/
namespace C04
open Ver Py Std

namespace Spec
/-- PEP 440 normalisation of segment letters (`packaging.version._parse_letter_version`) -/
def normLetter (w : Str) : Str :=
  if w == "alpha".toList then "a".toList
  else if w == "beta".toList then "b".toList
  else if w == "c".toList || w == "pre".toList || w == "preview".toList then "rc".toList
  else if w == "rev".toList || w == "r".toList then "post".toList
  else w

/-- `packaging.version._cmpkey` on already-normalised segments -/
def cmpkey (epoch : Nat) (release : List Nat) (pre post dev : Option (Str × Int))
    (loc : Option (List (Sent Int × Str))) : PkgKey :=
  let release' := (release.reverse.dropWhile (· == 0)).reverse
  let pre' : LetterK :=
    match pre, post, dev with
    | none, none, some _ => Sent.ninf
    | none, _, _ => Sent.inf
    | some p, _, _ => Sent.val p
  let post' : LetterK := match post with | none => Sent.ninf | some p => Sent.val p
  let dev' : LetterK := match dev with | none => Sent.inf | some p => Sent.val p
  let loc' := match loc with | none => Sent.ninf | some l => Sent.val l
  (epoch, release', pre', post', dev', loc')
end Spec

def preLetters : List Str := ["a", "b", "c", "rc", "alpha", "beta", "pre", "preview"].map String.toList
def postLetters : List Str := ["post", "rev", "r"].map String.toList
def seps : List Str := ["", ".", "-", "_"].map String.toList
def nums : List (Option Nat) := [none, some 0, some 1, some 2, some 10]

def showOptNat : Option Nat → Str
  | none => []
  | some n => showNat n

/-- all spellings `sep letter sep number` of a segment -/
def spellings (letters : List Str) : List (Str × Str × Option Nat) :=
  letters.flatMap fun l => seps.flatMap fun s1 => seps.flatMap fun s2 => nums.map fun n =>
    (s1 ++ l ++ s2 ++ showOptNat n, l, n)

def readsAs (sp : Str × Str × Option Nat) : Bool :=
  match extractLetter sp.1 with
  | .ok (l, n) => l == Spec.normLetter sp.2.1 && n == ((sp.2.2.getD 0 : Nat) : Int)
  | .error _ => false

/-- the class's spelling table is PEP 440's normalisation -/
theorem C04_letters : ∀ w ∈ preLetters ++ postLetters ++ ["dev".toList],
    (lookupSpelling w Gen.extract_letter_table).getD w = Spec.normLetter w := by decide +kernel

theorem C04_segments_pre : ∀ sp ∈ spellings preLetters, readsAs sp = true := by decide +kernel
theorem C04_segments_post : ∀ sp ∈ spellings postLetters, readsAs sp = true := by decide +kernel
theorem C04_segments_dev : ∀ sp ∈ spellings ["dev".toList], readsAs sp = true := by decide +kernel

/-- the implicit post release `-N` is post N -/
def implicitOk (n : Nat) : Bool :=
  match extractLetter ('-' :: showNat n) with
  | .ok (l, k) => l == "post".toList && k == (n : Int)
  | .error _ => false

theorem C04_implicit_post : ∀ n ∈ [0, 1, 2, 9, 10, 99, 100, 12345, 4294967296], implicitOk n = true := by
  decide +kernel

/-- a post or dev segment: its letter and number when present, the sentinel `d` when absent -/
theorem segment_key {x : Option Str} {p : Str × Int} (d : LetterK) (h : ∀ s, x = some s → extractLetter s = .ok p)
    (hne : x ≠ some []) :
    (if truthyStr x then (extractLetter (x.getD [])).map Sent.val else pure d)
      = .ok (match x.map fun _ => p with | none => d | some p => Sent.val p) := by
  cases x with
  | none => rfl
  | some s =>
    have : truthyStr (some s) = true := by cases s <;> simp_all [truthyStr]
    simp [this, h s rfl]

/-- the key built by `__extract_tuple` is `_cmpkey` applied to the segments as `_extract_letter`
    reads them -/
theorem C04_key (o : Obj) (pre post dev : Str × Int) (loc : List (Sent Int × Str))
    (hpre : ∀ s, o.pre = some s → extractLetter s = .ok pre)
    (hpost : ∀ s, o.post = some s → extractLetter s = .ok post)
    (hdev : ∀ s, o.dev = some s → extractLetter s = .ok dev)
    (hloc : ∀ s, o.loc = some s → localKey s = .ok loc)
    (hne : o.post ≠ some [] ∧ o.dev ≠ some []) :
    pkgKey o = .ok (Spec.cmpkey o.epoch [o.major, o.minor, o.patch]
      (o.pre.map fun _ => pre) (o.post.map fun _ => post) (o.dev.map fun _ => dev) (o.loc.map fun _ => loc)) := by
  have h1 : pkgPre o = .ok (match o.pre.map fun _ => pre, o.post.map fun _ => post, o.dev.map fun _ => dev with
      | none, none, some _ => Sent.ninf
      | none, _, _ => Sent.inf
      | some p, _, _ => Sent.val p) := by
    unfold pkgPre
    cases hp : o.pre with
    | none => cases o.post <;> cases o.dev <;> rfl
    | some p => simp [hpre p hp]
  have h4 : pkgLoc o = .ok (match o.loc.map fun _ => loc with | none => Sent.ninf | some l => Sent.val l) := by
    unfold pkgLoc
    cases hl : o.loc with
    | none => rfl
    | some l => simp [hloc l hl]
  simp only [pkgKey, h1, pkgPost, segment_key _ hpost hne.1, pkgDev, segment_key _ hdev hne.2, h4, Except.ok_bind]
  rfl

/-- **order**: comparing two packaging versions never raises and gives the sign of the comparison of
    their PEP 440 keys; in particular versions with equal keys compare equal -/
theorem C04_order (a b : Obj) (ha : a.cls = .pkg) (hb : b.cls = .pkg) (ka kb : PkgKey)
    (hka : pkgKey a = .ok ka) (hkb : pkgKey b = .ok kb) :
    vcompare a (.obj b) = .ok (ordInt (compare ka kb)) := by
  have h1 : akey a = .ok (.pkg ka) := by simp [akey, ha, hka]
  have h2 : akey b = .ok (.pkg kb) := by simp [akey, hb, hkb]
  exact vcompare_obj (ha.trans hb.symm) h1 h2

/-- the lexicographic order of PEP 440 keys is a lawful linear preorder -/
example : TransOrd PkgKey := inferInstance

-- the spelling variants the property names, end to end through the regenerated pattern -------------

def cmpStr (s t : String) : Option Int :=
  match parse .pkg s.toList, parse .pkg t.toList with
  | .ok a, .ok b => match vcompare a (.obj b) with | .ok c => some c | .error _ => none
  | _, _ => none

theorem C04_variants :
    cmpStr "1.0a1" "1.0alpha1" = some 0 ∧ cmpStr "1.0c1" "1.0rc1" = some 0 ∧ cmpStr "1.0rc1" "1.0pre1" = some 0
  ∧ cmpStr "1.0.post1" "1.0post1" = some 0 ∧ cmpStr "1.0post1" "1.0-1" = some 0 ∧ cmpStr "1.0rev1" "1.0r1" = some 0
  ∧ cmpStr "1.0" "1.0.0" = some 0 ∧ cmpStr "1.0.dev1" "1.0a1" = some (-1) ∧ cmpStr "1.0a1" "1.0" = some (-1)
  ∧ cmpStr "1.0" "1.0+abc" = some (-1) ∧ cmpStr "1.0+abc" "1.0+1" = some (-1) ∧ cmpStr "1.0" "1.0.post1" = some (-1)
  ∧ cmpStr "1.0.post1.dev2" "1.0.post1" = some (-1) ∧ cmpStr "1!0.1" "2.0" = some 1 := by decide +kernel

end C04
