import FmtModel.Hist
import FmtModel.Generated.State
/-
  C17 — results depend only on arguments, not on call history or thread schedule.

  `C17_inventory`  : the complete inventory of process-wide mutable state in fmtutil (module-level containers,
                     class-level containers, functools caches), regenerated by the translator from the imported
                     modules on every run, is exactly the audited list below: two `regex()` caches keyed by the
                     class alone (`C17_cache_key`), and constant lookup tables that no code path writes to.  A new
                     module-level dict, memo or cache changes the inventory and this theorem no longer checks.
  `C17_history`    : for EVERY history of class creations and operations (any function of `cls.regex()` and its own
                     arguments: parse, gen_format, regex, format, comparisons — on any class, failing or not, in any
                     order, which includes every interleaving of atomic steps of concurrent threads) starting from
                     any cache state that only holds correctly computed tables, every call returns what it returns
                     with no cache at all.
  `C17_fresh`      : in particular the same as in a fresh interpreter (empty cache).
  `C17_call_alone` : the result of a call is a function of the classes created before it and of its own arguments —
                     no other call appears in it.
  Instances never change: the model's objects are immutable values; on the real objects this is observed by the
  sweep (slot snapshots around format, valid, comparison, hashing, arithmetic, values, to_const).
-/
namespace C17
open Py Engine Hist

/-- audited: (1,2) lru_cache of `_regex`, keyed by class, values only handed out as copies (C15 repair);
    (3,4) `asset` class attributes = (5,6) the module-level asset tables, read-only;
    (7) `FormatterGroup.base_groups` default `{}` of the base class, replaced per group class, never written;
    (8-12) month/weekday name tables and directive-name maps, read-only lookups -/
def audited : List String :=
  [ "cache:fmtutil.__assets.Formatter._regex",
    "cache:fmtutil.formatter.Formatter._regex",
    "class:fmtutil.__assets.Datetime.asset:dict:7",
    "class:fmtutil.__assets.Serial.asset:dict:5",
    "class:fmtutil.formatter.FormatterGroup.base_groups:dict:0",
    "module:fmtutil.__assets.DATETIME_ASSET:dict:7",
    "module:fmtutil.__assets.SERIAL_ASSET:dict:5",
    "module:fmtutil.formatter.MONTHS:dict:12",
    "module:fmtutil.formatter.WEEKS:dict:7",
    "module:fmtutil.formatter.WEEKS_FULL:dict:7",
    "module:fmtutil.utils.FMT_STR_MAP:dict:4",
    "module:fmtutil.utils.FMT_STR_OTAN_MAP:dict:26" ]

theorem C17_inventory : Gen.shared_state = audited.map String.toList := by decide +kernel

theorem C17_cache_key : Gen.regex_cache_params = ["cls".toList] := by decide

/-- every cached table is the one `regex()` computes for that class -/
def CacheOK (reg : Registry) (cache : Cache) : Prop :=
  ∀ i t, clookup i cache = some t → regexOf reg i = .ok t

theorem regexOf_append (reg more : Registry) (i : Nat) (t : Table) (h : regexOf reg i = .ok t) :
    regexOf (reg ++ more) i = .ok t := by
  cases Nat.lt_or_ge i reg.length with
  | inl hlt => simpa only [regexOf, List.getElem?_append_left hlt] using h
  | inr hge => simp [regexOf, List.getElem?_eq_none hge] at h

theorem cacheOK_nil (reg : Registry) : CacheOK reg [] := fun _ _ h => nomatch h

theorem regexCached_spec (reg : Registry) (cache : Cache) (i : Nat) (h : CacheOK reg cache) :
    (regexCached reg cache i).2 = regexOf reg i ∧ CacheOK reg (regexCached reg cache i).1 := by
  unfold regexCached
  cases hc : clookup i cache with
  | some t => exact ⟨(h i t hc).symm, h⟩
  | none =>
    cases hr : regexOf reg i with
    | error e => exact ⟨rfl, h⟩
    | ok t =>
      refine ⟨rfl, fun j u hj => ?_⟩
      simp only [clookup] at hj
      split at hj
      · cases hj; subst ‹i = j›; exact hr
      · exact h j u hj

theorem step_spec (st : St) (op : Op) (h : CacheOK st.reg st.cache) :
    (step st op).2 = (stepPure st.reg op).2 ∧ (step st op).1.reg = (stepPure st.reg op).1
    ∧ CacheOK (step st op).1.reg (step st op).1.cache := by
  cases op with
  | define rows =>
    refine ⟨rfl, rfl, ?_⟩
    intro i t hi
    exact regexOf_append st.reg [rows] i t (h i t hi)
  | call i k =>
    obtain ⟨h1, h2⟩ := regexCached_spec st.reg st.cache i h
    refine ⟨?_, rfl, h2⟩
    simp only [step, stepPure, h1]

/-- **history independence**: with any correctly filled cache, every call of every history returns what it returns
    without a cache -/
theorem C17_history : ∀ (ops : List Op) (st : St), CacheOK st.reg st.cache → run st ops = runPure st.reg ops
  | [], _, _ => rfl
  | op :: ops, st, h => by
    obtain ⟨h1, h2, h3⟩ := step_spec st op h
    simp only [run, runPure]
    rw [h1, C17_history ops (step st op).1 h3, h2]

/-- **fresh interpreter**: the empty cache is correctly filled, so a history from a fresh process gives the cache-free
    results too — hence any two histories agree on every call they share -/
theorem C17_fresh (reg : Registry) (ops : List Op) : run { reg := reg, cache := [] } ops = runPure reg ops :=
  C17_history ops _ (cacheOK_nil reg)

/-- the registry after a history depends on the `define`s only -/
def defines : List Op → List (List DirRow)
  | [] => []
  | .define rows :: ops => rows :: defines ops
  | .call _ _ :: ops => defines ops

theorem stepPure_reg (reg : Registry) (op : Op) : (stepPure reg op).1 = reg ++ defines [op] := by
  cases op <;> simp [stepPure, defines]

/-- the results of a suffix depend on the prefix through the classes it creates and through nothing else -/
theorem runPure_append : ∀ (ops ops' : List Op) (reg : Registry),
    runPure reg (ops ++ ops') = runPure reg ops ++ runPure (reg ++ defines ops) ops'
  | [], _, _ => by simp [runPure, defines]
  | op :: ops, ops', reg => by
    simp only [List.cons_append, runPure, runPure_append ops ops', stepPure_reg]
    cases op <;> simp [defines]

/-- **a call alone**: the result of the last call of a history is a function of the classes created before it and of
    its own arguments; the other calls do not appear -/
theorem C17_call_alone : ∀ (ops : List Op) (reg : Registry) (i : Nat) (k : R Table → R Str),
    (runPure reg (ops ++ [.call i k])).getLast? = some (some (k (regexOf (reg ++ defines ops) i))) :=
  fun ops reg i k => by simp [runPure_append, runPure, stepPure]

/-- the hypothesis of `C17_history` is met at the start of a process, whatever classes exist -/
example : CacheOK [Gen.serial_formatter, Gen.naming_formatter] [] := cacheOK_nil _

end C17
