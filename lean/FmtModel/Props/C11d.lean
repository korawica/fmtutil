import FmtModel.Props.C11a
namespace C11
theorem C11_post : ∀ strict ∈ [false, true], ∀ lead ∈ leads, ∀ l ∈ postLetters, ∀ i ∈ inners, postTerm lead l i "7" strict = true := by
  simp only [postTerm, mirrors, String.toList_append, String.reduceToList]
  decide +kernel

theorem C11_post_implicit : ∀ strict ∈ [false, true], ∀ n ∈ ["0", "1", "7", "12", "999"],
    mirrors ("1.2.3-" ++ n) "%m.%n.%c%p" strict = true := by decide +kernel

theorem C11_dev : ∀ strict ∈ [false, true], ∀ lead ∈ leads, ∀ i ∈ inners, devTerm lead i "7" strict = true := by
  simp only [devTerm, mirrors, String.toList_append, String.reduceToList]
  decide +kernel
end C11
