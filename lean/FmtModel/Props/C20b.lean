import FmtModel.Props.C20a
namespace C20
theorem C20_pairs_naming : pairsOk Naming.cls = true := by
  simp only [pairsOk, seqOk, C12.genFormat_genSpec]
  decide +kernel
end C20
