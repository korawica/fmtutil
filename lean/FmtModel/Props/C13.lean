import FmtModel.Lemmas.VerOrder
/-
  C13 — version objects are immutable; next_version never goes backwards.

  Proved here for all objects (numbers and tags unbounded):
  * `C13_next_base`: for the plain class, `next_version` of `major` / `minor` / `patch` exists, is strictly
    higher, and the lower-order parts are reset;
  * `bump_major/minor/patch` give (X+1).0.0, X.(Y+1).0, X.Y.(Z+1);
  * an invalid part is a ValueError.
  * `C13_next_pkg`: for EVERY packaging version whose key exists — any epoch, numbers and pre/post/dev/local
    segments — `next_version` of epoch / major / minor / patch exists, has a key and is STRICTLY higher: either the
    version is "before its final release" (a pre tag, or a dev tag without a post tag) and the part is reached, so the
    segments are dropped (`lt_final`), or the release is bumped (`nr_bump_*`).
  The gap: the `pre` / `post` / `dev` parts go through `increment` on an arbitrary tag text, and the semantic class
  compares text tags as text; for those the statement is validated by the sweep and the correspondence only.
-/
namespace C13
open Ver Py Std

/-- `necessaryRelease` by recursion on the list: a leading number is dropped only when it is zero and
    nothing is left after it -/
theorem nr_cons (a : Nat) (l : List Nat) :
    necessaryRelease (a :: l) = if necessaryRelease l = [] ∧ a = 0 then [] else a :: necessaryRelease l := by
  unfold necessaryRelease
  rw [List.reverse_cons, List.dropWhile_append]
  cases h : List.dropWhile (· == 0) l.reverse with
  | nil => by_cases ha : a = 0 <;> simp [ha]
  | cons b t => simp

/-- raising one number of a release raises its key, whatever comes after that number on either side -/
theorem nr_lt {x y : Nat} (h : x < y) (s s' : List Nat) : ∀ p : List Nat,
    compare (necessaryRelease (p ++ x :: s)) (necessaryRelease (p ++ y :: s')) = .lt
  | [] => by
    rw [List.nil_append, List.nil_append, nr_cons y, if_neg (fun h' => by omega), nr_cons x]
    split
    · rfl
    · rw [List.compare_cons_cons, Nat.compare_eq_lt.2 h]
      rfl
  | a :: p => by
    have ih := nr_lt h s s' p
    rw [List.cons_append, List.cons_append, nr_cons, nr_cons]
    generalize necessaryRelease (p ++ x :: s) = l, necessaryRelease (p ++ y :: s') = l' at ih
    cases l' with
    | nil => cases l <;> cases ih
    | cons b t =>
      rw [if_neg (fun h' : b :: t = [] ∧ a = 0 => nomatch h'.1)]
      split
      · rfl
      · rw [List.compare_cons_cons, Nat.compare_eq_eq.2 rfl]
        exact ih

theorem nr_bump_major (a b c : Nat) :
    compare (necessaryRelease [a, b, c]) (necessaryRelease [a + 1, 0, 0]) = .lt :=
  nr_lt (Nat.lt_succ_self a) _ _ []

theorem nr_bump_minor (a b c : Nat) :
    compare (necessaryRelease [a, b, c]) (necessaryRelease [a, b + 1, 0]) = .lt :=
  nr_lt (Nat.lt_succ_self b) _ _ [a]

theorem nr_bump_patch (a b c : Nat) :
    compare (necessaryRelease [a, b, c]) (necessaryRelease [a, b, c + 1]) = .lt :=
  nr_lt (Nat.lt_succ_self c) _ _ [a, b]

theorem cmp_succ (n : Nat) : compare n (n + 1) = .lt := Nat.compare_eq_lt.2 (Nat.lt_succ_self n)

-- bump_major / bump_minor / bump_patch ----------------------------------------------------------------

/-- bump_major, bump_minor, bump_patch give (X+1).0.0, X.(Y+1).0, X.Y.(Z+1) (the packaging class keeps
    its epoch) and drop every other segment -/
theorem C13_bumps (o : Obj) :
    (bumpMajor o).major = o.major + 1 ∧ (bumpMajor o).minor = 0 ∧ (bumpMajor o).patch = 0
  ∧ (bumpMinor o).major = o.major ∧ (bumpMinor o).minor = o.minor + 1 ∧ (bumpMinor o).patch = 0
  ∧ (bumpPatch o).major = o.major ∧ (bumpPatch o).minor = o.minor ∧ (bumpPatch o).patch = o.patch + 1
  ∧ (bumpMajor o).cls = o.cls ∧ (bumpMinor o).cls = o.cls ∧ (bumpPatch o).cls = o.cls
  ∧ (bumpMajor o).pre = none ∧ (bumpMinor o).pre = none ∧ (bumpPatch o).pre = none
  ∧ (o.cls = .pkg → (bumpMajor o).epoch = o.epoch ∧ (bumpMinor o).epoch = o.epoch ∧ (bumpPatch o).epoch = o.epoch) := by
  cases h : o.cls <;> simp [bumpMajor, bumpMinor, bumpPatch, h]

-- next_version: the plain class -------------------------------------------------------------------------

def relParts : List Str := ["major".toList, "minor".toList, "patch".toList]

theorem C13_next_base (o : Obj) (ho : o.cls = .base) (part : Str) (hp : part ∈ relParts) :
    ∃ o', nextVersion o part = .ok o' ∧ o'.cls = .base
      ∧ compare (baseKey o) (baseKey o') = .lt
      ∧ (part = "major".toList → o'.minor = 0 ∧ o'.patch = 0) ∧ (part = "minor".toList → o'.patch = 0) := by
  -- with the class and the part known, `nextVersion` and the bumps compute
  obtain ⟨c, _⟩ := o
  obtain rfl : c = .base := ho
  simp only [relParts, List.mem_cons, List.mem_nil_iff, or_false] at hp
  rcases hp with rfl | rfl | rfl
  · exact ⟨bumpMajor _, rfl, rfl, cmp_fst_lt (cmp_succ _) _ _, fun _ => ⟨rfl, rfl⟩, fun h => absurd h (by decide)⟩
  · exact ⟨bumpMinor _, rfl, rfl, (cmp_fst_eq ..).trans (cmp_fst_lt (cmp_succ _) _ _),
      fun h => absurd h (by decide), fun _ => rfl⟩
  · exact ⟨bumpPatch _, rfl, rfl, (cmp_fst_eq ..).trans ((cmp_fst_eq ..).trans (cmp_succ _)),
      fun h => absurd h (by decide), fun h => absurd h (by decide)⟩

/-- a part the class does not name is a ValueError, for every class -/
theorem C13_invalid_part (o : Obj) (part : Str) (h : ¬ part ∈ validParts o.cls) :
    nextVersion o part = .error .pyValue := by
  simp [nextVersion, h]

/-- the parts each class names as valid are exactly the advertised ones (from the regenerated tables) -/
theorem C13_valid_parts :
    validParts .base = ["major".toList, "minor".toList, "patch".toList]
  ∧ validParts .sem = ["major".toList, "minor".toList, "patch".toList, "pre".toList]
  ∧ validParts .pkg = ["epoch".toList, "major".toList, "minor".toList, "patch".toList, "pre".toList, "post".toList, "dev".toList] := by
  decide +kernel

-- packaging versions: release parts, for every version ----------------------------------------------------

def finalKey (o : Obj) (rel : List Nat) : PkgKey := (o.epoch, rel, Sent.inf, Sent.ninf, Sent.inf, Sent.ninf)

/-- a key that exists is the tuple of its six components -/
theorem pkgKey_ok {o : Obj} {k : PkgKey} (h : pkgKey o = .ok k) :
    ∃ pre post dev loc, pkgPre o = .ok pre ∧ pkgPost o = .ok post ∧ pkgDev o = .ok dev
      ∧ k = (o.epoch, necessaryRelease [o.major, o.minor, o.patch], pre, post, dev, loc) := by
  simp only [pkgKey, Except.bind_eq_ok, Except.pure_eq_ok, Except.ok.injEq] at h
  obtain ⟨pre, hpre, post, hpost, dev, hdev, loc, -, rfl⟩ := h
  exact ⟨pre, post, dev, loc, hpre, hpost, hdev, rfl⟩

/-- a version that is "before its final release" (it has a pre-release tag, or a dev tag and no post tag) is strictly
    below the final release with the same epoch and numbers -/
theorem lt_final (o : Obj) (k : PkgKey) (hk : pkgKey o = .ok k)
    (hb : (truthyStr o.pre || (truthyStr o.dev && !truthyStr o.post)) = true) :
    compare k (finalKey o (necessaryRelease [o.major, o.minor, o.patch])) = .lt := by
  obtain ⟨pre, post, dev, loc, hpre, hpost, hdev, rfl⟩ := pkgKey_ok hk
  have hval : ∀ {s : Str} {r : LetterK}, (extractLetter s).map Sent.val = .ok r → compare r Sent.inf = .lt :=
    fun h => by obtain ⟨x, -, rfl⟩ := Except.map_eq_ok.1 h; rfl
  simp only [finalKey, compare_prod, ReflCmp.compare_self, Ordering.then]
  unfold pkgPre at hpre
  unfold pkgPost at hpost
  unfold pkgDev at hdev
  cases hp : o.pre with
  | some p => rw [hval (by simpa [hp] using hpre)]
  | none =>
    cases hd : o.dev with
    | none => simp [hp, hd, truthyStr] at hb
    | some d =>
      cases hq : o.post with
      | none =>
        -- a dev release of the final version: the pre component is -inf
        simp [hp, hd, hq] at hpre
        subst hpre
        rfl
      | some q =>
        -- an empty post tag: pre and post compare equal, the dev component decides
        simp [hp, hd, hq, truthyStr] at hb hpre hpost hdev
        simp only [hb.1, hb.2, ↓reduceIte, Except.ok.injEq] at hpost hdev
        rw [← hpre, ← hpost, hval hdev]
        rfl

def pkgRelParts : List Str := ["epoch".toList, "major".toList, "minor".toList, "patch".toList]

def beforeFinal (o : Obj) : Bool := truthyStr o.pre || (truthyStr o.dev && !truthyStr o.post)
def reset (o : Obj) : Obj := { o with pre := none, post := none, dev := none, loc := none }

/-- **packaging versions, release parts**: for EVERY packaging version whose key exists (any epoch, numbers and
    pre/post/dev/local segments) `next_version` of epoch / major / minor / patch exists, has a key, and is strictly higher -/
theorem C13_next_pkg (o : Obj) (ho : o.cls = .pkg) (k : PkgKey) (hk : pkgKey o = .ok k) (part : Str) (hp : part ∈ pkgRelParts) :
    ∃ o' k', nextVersion o part = .ok o' ∧ pkgKey o' = .ok k' ∧ compare k k' = .lt := by
  -- `next_version` answers the final release of `o` (only when `o` is before it) or a bump `b`: a final release whose
  -- release numbers are above those of `o`
  have step : ∀ (c : Bool) (b : Obj) (rel' : List Nat), pkgKey b = .ok (finalKey o rel') →
      compare (necessaryRelease [o.major, o.minor, o.patch]) rel' = .lt →
      ∃ o' k', (if beforeFinal o && c then .ok (reset o) else .ok b : R Obj) = .ok o' ∧ pkgKey o' = .ok k'
        ∧ compare k k' = .lt := by
    intro c b rel' hb hr
    by_cases h : (beforeFinal o && c) = true
    · exact ⟨reset o, _, if_pos h, pkgKey_final rfl rfl rfl rfl, lt_final o k hk (Bool.and_eq_true_iff.1 h).1⟩
    · obtain ⟨pre, post, dev, loc, -, -, -, rfl⟩ := pkgKey_ok hk
      exact ⟨b, _, if_neg h, hb, (cmp_fst_eq ..).trans (cmp_fst_lt hr _ _)⟩
  -- with the class and the part known, `nextVersion` and the bumps compute
  obtain ⟨c, _⟩ := o
  obtain rfl : c = .pkg := ho
  simp only [pkgRelParts, List.mem_cons, List.mem_nil_iff, or_false] at hp
  rcases hp with rfl | rfl | rfl | rfl
  · obtain ⟨pre, post, dev, loc, -, -, -, rfl⟩ := pkgKey_ok hk
    exact ⟨bumpEpoch _, _, if_neg (c := (beforeFinal _ && false) = true) (by simp), pkgKey_final rfl rfl rfl rfl,
      cmp_fst_lt (cmp_succ _) _ _⟩
  · exact step _ (bumpMajor _) _ (pkgKey_final rfl rfl rfl rfl) (nr_bump_major ..)
  · exact step _ (bumpMinor _) _ (pkgKey_final rfl rfl rfl rfl) (nr_bump_minor ..)
  · exact step _ (bumpPatch _) _ (pkgKey_final rfl rfl rfl rfl) (nr_bump_patch ..)

/-- the hypotheses are met by a parsed version with all segments (non-vacuity) -/
def hasPkgKey (s : String) : Bool :=
  match parse .pkg s.toList with
  | .ok o => decide (o.cls = .pkg) && (match pkgKey o with | .ok _ => true | .error _ => false)
  | .error _ => false

example : hasPkgKey "2!1.2.0rc1.post2.dev3+abc.1" = true ∧ hasPkgKey "1.0.0.dev1" = true := by decide +kernel


-- immutability ------------------------------------------------------------------------------------------

/-- assignment to any attribute of a constructed object raises AttributeError and changes nothing -/
theorem C13_setattr (o : Obj) (name : Str) : setattr o name = (.error .pyAttr, o) := rfl

/-- every reading operation is a function of the receiver: the model has no mutable state, so a
    sequence of bump / next_version / replace / compare / match / hash / str calls cannot change it.
    (The tie to the real objects is the correspondence: `to_tuple()` before and after each call.) -/
inductive ReadOp where
  | next (part : Str) | bump (which : Nat) | replace (kw : List (Str × Arg)) | compare (x : Other)
  | matchE (e : Str) | hash | str

def applyRead (o : Obj) : ReadOp → Obj × String
  | .next p => (o, match nextVersion o p with | .ok _ => "ok" | .error e => e.name)
  | .bump 0 => (o, toString (bumpMajor o).major)
  | .bump 1 => (o, toString (bumpMinor o).minor)
  | .bump _ => (o, toString (bumpPatch o).patch)
  | .replace kw => (o, match replace o kw with | .ok _ => "ok" | .error e => e.name)
  | .compare x => (o, match vcompare o x with | .ok _ => "ok" | .error e => e.name)
  | .matchE e => (o, match matchExpr o e with | .ok _ => "ok" | .error e => e.name)
  | .hash => (o, match hashRepr o with | .ok _ => "ok" | .error e => e.name)
  | .str => (o, String.ofList o.str)

theorem applyRead_fst (o : Obj) (op : ReadOp) : (applyRead o op).1 = o := by
  cases op with
  | bump n =>
    match n with
    | 0 => rfl
    | 1 => rfl
    | _ + 2 => rfl
  | _ => rfl

theorem C13_frame (o : Obj) (ops : List ReadOp) : ops.foldl (fun s op => (applyRead s op).1) o = o := by
  induction ops with
  | nil => rfl
  | cons op rest ih => simpa [List.foldl, applyRead_fst] using ih

-- non-vacuity and end-to-end instances on the regenerated tables -------------------------------------------

def nextStr (c : Cls) (s part : String) : Option String :=
  match parse c s.toList with
  | .ok o => match nextVersion o part.toList with
    | .ok o' => some (String.ofList o'.str)
    | .error _ => none
  | .error _ => none

example : nextStr .pkg "1.2.3" "pre" = some "1.2.4a.1" := by decide +kernel
example : nextStr .pkg "1.2.3.post1" "patch" = some "1.2.4" := by decide +kernel
example : nextStr .pkg "1!1.2.3rc1" "patch" = some "1!1.2.3" := by decide +kernel
example : nextStr .pkg "1.2.3" "dev" = some "1.2.4dev1" := by decide +kernel
example : nextStr .pkg "2!1.2.3" "epoch" = some "3!0.0.0" := by decide +kernel
example : nextStr .sem "1.2.3-rc.9" "pre" = some "1.2.3-rc.10" := by decide +kernel
example : nextStr .sem "1.2.3" "pre" = some "1.2.4-rc.1" := by decide +kernel

end C13
