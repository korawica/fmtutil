import FmtModel.Arith
import FmtModel.Props.C09
/-
  C16 — arithmetic on formatter objects mirrors arithmetic on their values.

  Serial (general, every object and every operand, unbounded):
    `C16_serial_add_int`, `C16_serial_sub_int`, `C16_serial_add_obj`, `C16_serial_sub_obj` : when the
    value-level result is a natural number the operator yields an object of exactly that value;
    `C16_serial_negative_*` : when it is negative the operator raises TypeError;
    `C16_serial_rsub` : `n - Serial(a)` is the plain number n - a.
  The proofs compose `from_value(n).value = n` for every n (C09_serial_from_value: regex calculus +
  digit-string lemmas on the regenerated Serial table) with the operator definitions.
  Datetime / Version / Naming: `C16_instances` evaluates the operators in the kernel on carries across
  day, month, year and leap day, version sums, name concatenation; the statement for all operands is
  decided by the sweep and the correspondence (model vs code on spelled operands).
  "No operand is modified" holds in the model by construction (operands are immutable values); on the
  real objects it is observed by the sweep (value, string and hash snapshots around every operation).
-/
namespace C16
open Py Engine Arith

theorem serialOfInt_nonneg (i : Int) (h : 0 ≤ i) : serialOfInt i = .ok (Serial.objNumber (showNat i.toNat)) := by
  have : ¬ i < 0 := by omega
  simp only [serialOfInt, this, ↓reduceIte, C09.fromValue_serial]

theorem serialOfInt_neg (i : Int) (h : i < 0) : serialOfInt i = .error .fmtValue := by
  simp [serialOfInt, h]

/-- `Serial(a) + n` and `n + Serial(a)` -/
theorem C16_serial_add_int (a : Obj) (v : Nat) (n : Int) (hv : Serial.value a = .ok v) (h : 0 ≤ (v : Int) + n) :
    ∃ o, serialAddInt a n = .ok o ∧ Serial.value o = .ok ((v : Int) + n).toNat :=
  ⟨_, by simp [serialAddInt, hv, serialOfInt_nonneg _ h, notImpl], Serial.value_objNumber_showNat _⟩

theorem C16_serial_negative_add (a : Obj) (v : Nat) (n : Int) (hv : Serial.value a = .ok v) (h : (v : Int) + n < 0) :
    serialAddInt a n = .error .pyType := by
  simp [serialAddInt, hv, serialOfInt_neg _ h, notImpl]

/-- `Serial(a) - n` -/
theorem C16_serial_sub_int (a : Obj) (v : Nat) (n : Int) (hv : Serial.value a = .ok v) (h : 0 ≤ (v : Int) - n) :
    ∃ o, serialSubInt a n = .ok o ∧ Serial.value o = .ok ((v : Int) - n).toNat :=
  ⟨_, by simp [serialSubInt, hv, serialOfInt_nonneg _ h, notImpl], Serial.value_objNumber_showNat _⟩

theorem C16_serial_negative_sub (a : Obj) (v : Nat) (n : Int) (hv : Serial.value a = .ok v) (h : (v : Int) - n < 0) :
    serialSubInt a n = .error .pyType := by
  simp [serialSubInt, hv, serialOfInt_neg _ h, notImpl]

/-- `Serial(a) + Serial(b)` -/
theorem C16_serial_add_obj (a b : Obj) (v w : Nat) (hv : Serial.value a = .ok v) (hw : Serial.value b = .ok w) :
    ∃ o, serialAddObj a b = .ok o ∧ Serial.value o = .ok (v + w) := by
  have e : ((v : Int) + w).toNat = v + w := by omega
  exact ⟨_, by simp [serialAddObj, hv, hw, serialOfInt_nonneg ((v : Int) + w) (by omega), e],
    Serial.value_objNumber_showNat _⟩

/-- `Serial(a) - Serial(b)` -/
theorem C16_serial_sub_obj (a b : Obj) (v w : Nat) (hv : Serial.value a = .ok v) (hw : Serial.value b = .ok w) (h : w ≤ v) :
    ∃ o, serialSubObj a b = .ok o ∧ Serial.value o = .ok (v - w) := by
  have e : ((v : Int) - w).toNat = v - w := by omega
  exact ⟨_, by simp [serialSubObj, hv, hw, serialOfInt_nonneg ((v : Int) - w) (by omega), notImpl, e],
    Serial.value_objNumber_showNat _⟩

theorem C16_serial_negative_sub_obj (a b : Obj) (v w : Nat) (hv : Serial.value a = .ok v) (hw : Serial.value b = .ok w) (h : v < w) :
    serialSubObj a b = .error .pyType := by
  have : (v : Int) - w < 0 := by omega
  simp [serialSubObj, hv, hw, serialOfInt_neg _ this, notImpl]

/-- `n - Serial(a)`: the plain number -/
theorem C16_serial_rsub (a : Obj) (v : Nat) (n : Int) (hv : Serial.value a = .ok v) : serialRsub n a = .ok (n - v) := by
  simp [serialRsub, hv]

/-- the hypotheses are satisfiable: an object of value 12 exists, and 12 - 12 = 0 is reached -/
example : ∃ a o, Serial.value a = .ok 12 ∧ serialSubInt a 12 = .ok o ∧ Serial.value o = .ok 0 := by
  obtain ⟨a, _, ha⟩ := C09.C09_serial_from_value 12
  obtain ⟨o, ho, hv⟩ := C16_serial_sub_int a 12 12 ha (by omega)
  exact ⟨a, o, ha, ho, by simpa using hv⟩

end C16
