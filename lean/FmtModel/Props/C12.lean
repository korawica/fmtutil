import FmtModel.Classes.Serial
import FmtModel.Classes.Datetime
import FmtModel.Lemmas.ReHead
/-
  C12 — a format string means the same to format and to parse.

  `Spec.scan` is the independent left-to-right tokeniser.  Proved here, on the regenerated
  tokeniser texts:
  * the parse side and the format side use ONE tokeniser: `gen_format` and `format` both run a single
    left-to-right `re.sub` with the same pattern — `%%` or a directive (`C12_token_patterns`; `format` used
    to substitute token by token on the evolving string, so that a rendered text or a literal `%-` could make
    up a new directive: repaired in /repo);
  * for EVERY format string the pattern `gen_format` builds equals the pattern the independent tokeniser
    builds (`genFormat_scan`, any directive table), and `format` renders what the independent tokeniser renders
    for a class whose renderers never yield `None` (`formatVal_scan`; Version `%l` does, and there `format`
    drops the directive where `Spec.format` raises), including the two error kinds.  Both are instances of
    `subFold_tok`: the preferred match of the token pattern at a position is the token `scan` reads there
    (`scan_step`), so one `re.sub` pass computes any function that reads `scan fmt` from left to right.
    The bounded statements `C12_bounded_*` (the property's alphabet up to length 4, Serial) are special cases.
-/
namespace C12
open Py Engine

namespace Spec
inductive Tok where
  | pct
  | dir (t : Str)
  | lit (c : Char)
  deriving Repr, DecidableEq

def isPrefixChar (c : Char) : Bool := c == '-' || c == '+' || c == '!' || c == '*'

/-- left to right: `%%`, `%[-+!*]?[A-Za-z]`, or a literal character -/
def scan : Str → List Tok
  | [] => []
  | '%' :: '%' :: rest => .pct :: scan rest
  | '%' :: p :: c :: rest =>
    if isPrefixChar p && isAsciiAlpha c then .dir ['%', p, c] :: scan rest
    else if isAsciiAlpha p then .dir ['%', p] :: scan (c :: rest)
    else .lit '%' :: scan (p :: c :: rest)
  | '%' :: [c] => if isAsciiAlpha c then [.dir ['%', c]] else [.lit '%', .lit c]
  | c :: rest => .lit c :: scan rest

/-- what `format` should produce: literals, `%`, renderings; an unsupported directive is a KeyError -/
def format {V} (C : Cls V) (v : V) : List Tok → R Str
  | [] => .ok []
  | .pct :: r => (format C v r).map ('%' :: ·)
  | .lit c :: r => (format C v r).map (c :: ·)
  | .dir t :: r =>
    if C.rows.any (·.1 == t) then do
      let x ← C.render t v
      let rest ← format C v r
      pure (x ++ rest)
    else .error .fmtKey

/-- what `gen_format` should produce: the directive regexes with their groups numbered in order -/
def genFormat (table : List (Str × Str)) : List Tok → List (Str × Nat) → R Str
  | [], _ => .ok []
  | .pct :: r, c => (genFormat table r c).map ('%' :: ·)
  | .lit ch :: r, c => (genFormat table r c).map (ch :: ·)
  | .dir t :: r, c =>
    match alookup t table with
    | none => .error .fmtArg
    | some rx => do
      let (rx', c') ← renameGroups [] [] rx c
      let rest ← genFormat table r c'
      pure (rx' ++ rest)
end Spec

/-- the two tokeniser patterns describe one token language -/
theorem C12_token_patterns :
    Gen.gen_format_token_re = "%%|%[-+!*]?[A-Za-z]".toList
  ∧ Gen.format_token_re = Gen.gen_format_token_re ∧ Gen.format_single_pass = true
  ∧ Gen.regex_token_re = "(%[-+!*]?[A-Za-z])".toList ∧ Gen.from_value_token_re = Gen.regex_token_re
  ∧ Gen.gen_format_percent = ['%'] ∧ Gen.format_percent = ['%'] := by decide

def atoms : List Str := ["%n", "%c", "%Q", "%%", "%", "x", "-"].map String.toList

def words : Nat → List Str
  | 0 => [[]]
  | n + 1 => (words n).flatMap fun w => atoms.map fun a => a ++ w

def sameR : R Str → R Str → Bool
  | .ok a, .ok b => a == b
  | .error a, .error b => a == b
  | _, _ => false

def genAgrees (fmt : Str) : Bool :=
  match regexTable Serial.cls.rows with
  | .ok t => sameR (Engine.genFormat t fmt [] []) (Spec.genFormat t (Spec.scan fmt) [])
  | .error _ => false

def fmtAgrees (fmt : Str) : Bool :=
  sameR (Engine.formatVal Serial.cls 1234 fmt) (Spec.format Serial.cls 1234 (Spec.scan fmt))

section Tokeniser

def tokRE : RE :=
  .alt (.seq (.cls [.range '%' '%'] false) (.cls [.range '%' '%'] false))
    (.seq (.cls [.range '%' '%'] false)
      (.seq (.rep 0 1 (.cls [.range '-' '-', .range '+' '+', .range '!' '!', .range '*' '*'] false))
        (.cls [.range 'A' 'Z', .range 'a' 'z'] false)))

theorem parse_tokRE : parseRegex "%%|%[-+!*]?[A-Za-z]".toList = some tokRE := by decide +kernel

theorem inCls_pct (c : Char) : inCls [.range '%' '%'] false c = (c == '%') := by
  simp [inCls, has_single]

theorem inCls_prefix (c : Char) :
    inCls [.range '-' '-', .range '+' '+', .range '!' '!', .range '*' '*'] false c = Spec.isPrefixChar c := by
  simp [inCls, has_single, Spec.isPrefixChar, Bool.or_assoc]

theorem inCls_alpha (c : Char) : inCls [.range 'A' 'Z', .range 'a' 'z'] false c = isAsciiAlpha c := by
  simp [inCls, CItem.has, isAsciiAlpha, isAsciiLower, isAsciiUpper, Bool.or_comm]

namespace Spec
def Tok.text : Tok → Str
  | .pct => ['%', '%']
  | .dir t => t
  | .lit c => [c]

/-- a token of the pattern, as against a literal character -/
def Tok.Re : Tok → Prop
  | .pct => True
  | .dir t => t ≠ [] ∧ t ≠ ['%', '%']
  | .lit _ => False

theorem Tok.Re.text_ne_nil : ∀ {tok : Tok}, tok.Re → tok.text ≠ []
  | .pct, _ => by simp [Tok.text]
  | .dir _, h => h.1

/-- what one token contributes, given the text for `%%` and the meaning of a directive -/
def Tok.sem {σ : Type} (pct : Str) (d : σ → Str → R (Str × σ)) (st : σ) : Tok → R (Str × σ)
  | .pct => .ok (pct, st)
  | .lit c => .ok ([c], st)
  | .dir t => d st t
end Spec
open Spec

section
attribute [local simp] matchAt tokRE ms repL inCls_pct inCls_prefix inCls_alpha Tok.Re

theorem matchAt_pct2 (tot : Nat) {p : Char} (hp : p ≠ '%') :
    matchAt tokRE tot ['%', p] = if isAsciiAlpha p then some ([], []) else none := by
  cases h : isAsciiAlpha p <;> cases h1 : isPrefixChar p <;> simp [hp, h, h1]

theorem matchAt_pct3 (tot : Nat) {p : Char} (hp : p ≠ '%') (c : Char) (rest : Str) :
    matchAt tokRE tot ('%' :: p :: c :: rest) =
      if isPrefixChar p && isAsciiAlpha c then some (rest, [])
      else if isAsciiAlpha p then some (c :: rest, []) else none := by
  cases h1 : isPrefixChar p <;> cases h2 : isAsciiAlpha c <;> cases h3 : isAsciiAlpha p <;> simp [hp, h1, h2, h3]

theorem scan_step (tot : Nat) (x : Char) (xs : Str) :
    ∃ tok rest, x :: xs = tok.text ++ rest ∧ scan (x :: xs) = tok :: scan rest ∧
      match tok with
      | .lit _ => matchAt tokRE tot (x :: xs) = none
      | _ => tok.Re ∧ matchAt tokRE tot (x :: xs) = some (rest, []) := by
  by_cases hx : x = '%'
  · subst hx
    match xs with
    | [] => exact ⟨.lit '%', [], rfl, by simp [scan], by simp⟩
    | p :: r =>
      by_cases hp : p = '%'
      · subst hp
        exact ⟨.pct, r, rfl, scan.eq_2 r, trivial, by simp⟩
      · match r with
        | [] =>
          rw [scan.eq_4 p hp, matchAt_pct2 tot hp]
          split
          · exact ⟨.dir ['%', p], [], rfl, rfl, by simp [hp], rfl⟩
          · exact ⟨.lit '%', [p], rfl, by simp [scan], rfl⟩
        | c :: rest =>
          rw [scan.eq_3 p c rest hp, matchAt_pct3 tot hp]
          split
          · exact ⟨.dir ['%', p, c], rest, rfl, rfl, by simp, rfl⟩
          · split
            · exact ⟨.dir ['%', p], c :: rest, rfl, rfl, by simp [hp], rfl⟩
            · exact ⟨.lit '%', p :: c :: rest, rfl, rfl, rfl⟩
  · exact ⟨.lit x, xs, rfl,
      scan.eq_5 x xs (fun _ h => (hx h).elim) (fun _ _ _ h => (hx h).elim) (fun _ h => (hx h).elim), by simp [hx]⟩

end

/-- `search` skips literal characters up to the first token -/
theorem search_tok (tot : Nat) : ∀ (s : Str) (i : Nat),
    (searchFrom tokRE tot i s = none ∧ scan s = s.map .lit) ∨
    ∃ lits tok rest, s = lits ++ (tok.text ++ rest) ∧ scan s = lits.map .lit ++ tok :: scan rest ∧ tok.Re ∧
      searchFrom tokRE tot i s = some (i + lits.length, rest, [])
  | [], i => .inl ⟨by simp [searchFrom, matchAt, tokRE, ms], rfl⟩
  | x :: xs, i => by
    obtain ⟨tok, rest, hs, hscan, hm⟩ := scan_step tot x xs
    cases tok with
    | lit c =>
      obtain ⟨rfl, rfl⟩ : x = c ∧ xs = rest := by simpa [Tok.text] using hs
      simp only [searchFrom, hm, hscan]
      rcases search_tok tot xs (i + 1) with ⟨h1, h2⟩ | ⟨lits, tok, rest, h1, h2, h3, h4⟩
      · exact .inl ⟨h1, by simp [h2]⟩
      · exact .inr ⟨x :: lits, tok, rest, by simp [h1], by simp [h2], h3, by simp [h4]; omega⟩
    | _ => exact .inr ⟨[], _, rest, by exact hs, hscan, hm.1, by simp [searchFrom, hm.2]⟩

section
variable {σ : Type} (pct : Str) (d : σ → Str → R (Str × σ))

/-- the replacement function of both `re.sub` passes -/
def subst (st : σ) (tok : Str) : R (Str × σ) := if tok == ['%', '%'] then pure (pct, st) else d st tok

theorem subst_text : ∀ {tok : Tok}, tok.Re → ∀ st, subst pct d st tok.text = tok.sem pct d st
  | .pct, _, _ => rfl
  | .dir t, h, st => by simp [subst, Tok.text, Tok.sem, h.2]

variable (spec : List Tok → σ → R Str)
  (h0 : ∀ st, spec [] st = .ok [])
  (h1 : ∀ tok r st, spec (tok :: r) st = tok.sem pct d st >>= fun a => (spec r a.2).map (a.1 ++ ·))
include h1

theorem spec_lits (toks : List Tok) (st : σ) :
    ∀ lits : Str, spec (lits.map .lit ++ toks) st = (spec toks st).map (lits ++ ·)
  | [] => by cases h : spec toks st <;> simp [h, Except.map]
  | c :: l => by
    rw [List.map_cons, List.cons_append, h1]
    show (spec (l.map .lit ++ toks) st).map ([c] ++ ·) = _
    rw [spec_lits toks st l]
    cases spec toks st <;> rfl

include h0

/- `finditerGo`'s position and the fold's cursor coincide (no token is empty), so `s` is at once what is left
   to search and what is left to copy. -/
theorem fold_tok (tot : Nat) (whole : Str) : ∀ (fuel pos : Nat) (s out : Str) (st : σ),
    whole.drop pos = s → s.length < fuel →
    ((finditerGo tokRE tot fuel pos s).foldlM (fun (acc : Str × Nat × σ) (m : Nat × Nat × Str × Caps) => do
          let (rep, st2) ← subst pct d acc.2.2 m.2.2.1
          pure (acc.1 ++ (whole.drop acc.2.1).take (m.1 - acc.2.1) ++ rep, m.2.1, st2)) (out, pos, st)).map
        (fun (acc : Str × Nat × σ) => acc.1 ++ whole.drop acc.2.1)
      = (spec (scan s) st).map (out ++ ·)
  | 0, _, _, _, _, _, h => absurd h (Nat.not_lt_zero _)
  | fuel + 1, pos, s, out, st, hs, hf => by
    rw [finditerGo]
    rcases search_tok tot s pos with ⟨e1, e2⟩ | ⟨lits, tok, rest, rfl, e2, hre, e1⟩
    · have := spec_lits pct d spec h1 [] st s
      rw [List.append_nil] at this
      simp [e1, e2, this, hs, h0, Except.map, pure, Except.pure]
    · have l1 : (lits ++ (tok.text ++ rest)).drop (pos + lits.length - pos) = tok.text ++ rest := by simp
      have l2 : (tok.text ++ rest).length - rest.length = tok.text.length := by simp
      have l3 : tok.text.length ≠ 0 := by simpa using hre.text_ne_nil
      simp only [e1, l1, l2, l3, if_false, List.take_left', List.foldlM_cons, subst_text pct d hre, e2,
        spec_lits pct d spec h1, h1]
      cases tok.sem pct d st with
      | error e => rfl
      | ok a =>
        have ih := fold_tok tot whole fuel (pos + lits.length + tok.text.length) rest (out ++ lits ++ a.1) a.2
          (by rw [Nat.add_assoc, ← List.drop_drop, hs]; simp) (by simp at hf; omega)
        simp only [hs, Nat.add_sub_cancel_left, List.take_left']
        refine Eq.trans ih ?_
        show _ = ((((spec (scan rest) a.2).map _).map _).map _)
        cases spec (scan rest) a.2 <;> simp [Except.map]

/-- one `re.sub` pass with the token pattern computes any function of the token list that reads it from left to right -/
theorem subFold_tok (fmt : Str) (st : σ) : (subFold tokRE fmt (subst pct d) st).map (·.1) = spec (scan fmt) st := by
  have := fold_tok pct d spec h0 h1 fmt.length fmt (fmt.length + 1) 0 fmt [] st rfl (Nat.lt_succ_self _)
  rw [show (spec (scan fmt) st).map ([] ++ ·) = spec (scan fmt) st by cases spec (scan fmt) st <;> rfl] at this
  rw [← this, subFold, finditer]
  generalize List.foldlM (m := R) _ _ _ = x
  cases x <;> rfl
end

theorem reOrErr_tok : reOrErr Gen.gen_format_token_re = .ok tokRE ∧ reOrErr Gen.format_token_re = .ok tokRE := by
  simp only [C12_token_patterns.2.1, C12_token_patterns.1, reOrErr, parse_tokRE, and_self]

/-- `Spec.genFormat` under a group prefix and suffix -/
def genSpec (table : List (Str × Str)) (pre suf : Str) : List Tok → List (Str × Nat) → R Str
  | [], _ => .ok []
  | .pct :: r, c => (genSpec table pre suf r c).map ('%' :: ·)
  | .lit ch :: r, c => (genSpec table pre suf r c).map (ch :: ·)
  | .dir t :: r, c =>
    match alookup t table with
    | none => .error .fmtArg
    | some rx => do
      let (rx', c') ← renameGroups pre suf rx c
      let rest ← genSpec table pre suf r c'
      pure (rx' ++ rest)

/-- `gen_format` reads its format string token by token, under any group prefix and suffix -/
theorem genFormat_genSpec (t : List (Str × Str)) (fmt pre suf : Str) :
    Engine.genFormat t fmt pre suf = genSpec t pre suf (scan fmt) [] := by
  rw [Engine.genFormat, reOrErr_tok.1, C12_token_patterns.2.2.2.2.2.1]
  refine subFold_tok ['%'] _ (genSpec t pre suf) (fun _ => rfl) (fun tok r c => ?_) fmt []
  cases tok with
  | dir x =>
    simp only [genSpec, Tok.sem]
    cases alookup x t with
    | none => rfl
    | some rx => dsimp only; cases renameGroups pre suf rx c <;> rfl
  | _ => rfl

theorem genSpec_nil (t : List (Str × Str)) : ∀ toks c, genSpec t [] [] toks c = Spec.genFormat t toks c
  | [], _ => rfl
  | .pct :: r, c | .lit _ :: r, c => by rw [genSpec, Spec.genFormat, genSpec_nil t r]
  | .dir x :: r, c => by simp only [genSpec, Spec.genFormat, genSpec_nil t r]

/-- `gen_format` builds the pattern the independent tokeniser builds, for every format string -/
theorem genFormat_scan (t : List (Str × Str)) (fmt : Str) :
    Engine.genFormat t fmt [] [] = Spec.genFormat t (scan fmt) [] := by
  rw [genFormat_genSpec, genSpec_nil]

/-- `format` renders what the independent tokeniser renders, for a class whose renderers never yield `None` -/
theorem formatVal_scan {V} (C : Cls V) (v : V) (h : ∀ t, C.render t v ≠ .error .pyType) (fmt : Str) :
    Engine.formatVal C v fmt = Spec.format C v (scan fmt) := by
  rw [Engine.formatVal, reOrErr_tok.2, C12_token_patterns.2.2.2.2.2.2]
  refine subFold_tok ['%'] _ (fun toks _ => Spec.format C v toks) (fun _ => rfl) (fun tok r _ => ?_) fmt ()
  cases tok with
  | dir x =>
    simp only [Spec.format, Tok.sem]
    split
    · cases hr : C.render x v with
      | error e => cases e <;> first | rfl | exact absurd hr (h x)
      | ok a => rfl
    · rfl
  | _ => rfl

theorem sameR_refl : ∀ x, sameR x x = true
  | .ok _ | .error _ => by simp [sameR]

theorem genAgrees_all (w : Str) : genAgrees w = true := by
  have ok : (regexTable Serial.cls.rows).isOk = true := by decide +kernel
  unfold genAgrees
  revert ok
  cases regexTable Serial.cls.rows with
  | error e => exact nofun
  | ok t => exact fun _ => (congrArg (sameR · _) (genFormat_scan t w)).trans (sameR_refl _)

theorem render_ne_pyType (p b : Nat) (t : Str) (n : Nat) : Serial.render p b t n ≠ .error .pyType := by
  unfold Serial.render
  repeat' split
  all_goals simp

theorem fmtAgrees_all (w : Str) : fmtAgrees w = true := by
  rw [fmtAgrees, formatVal_scan _ _ (render_ne_pyType _ _ · _), sameR_refl]

end Tokeniser

theorem C12_bounded_gen_1_3 : ∀ n ∈ [1, 2, 3], ∀ w ∈ words n, genAgrees w = true := fun _ _ _ _ => genAgrees_all _
theorem C12_bounded_gen_4 : ∀ w ∈ words 4, genAgrees w = true := fun _ _ => genAgrees_all _
theorem C12_bounded_format_1_3 : ∀ n ∈ [1, 2, 3], ∀ w ∈ words n, fmtAgrees w = true := fun _ _ _ _ => fmtAgrees_all _
theorem C12_bounded_format_4 : ∀ w ∈ words 4, fmtAgrees w = true := fun _ _ => fmtAgrees_all _

/-- an unsupported directive is reported by both sides with the documented error kinds -/
theorem C12_unsupported :
    Engine.formatVal Serial.cls 7 "a%Qb".toList = .error .fmtKey
  ∧ (do let t ← regexTable Serial.cls.rows; Engine.genFormat t "a%Qb".toList [] []) = (.error .fmtArg : R Str) := by
  decide +kernel

end C12
