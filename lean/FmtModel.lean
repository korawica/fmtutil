import FmtModel.Py.Basic
import FmtModel.Py.Str
import FmtModel.Py.Num
import FmtModel.Py.Re
import FmtModel.Py.ReParse
import FmtModel.Py.Cmp
import FmtModel.Generated.Tables
import FmtModel.Ver
import FmtModel.Wire
import FmtModel.Drv.Ver
import FmtModel.Engine
import FmtModel.Classes.Serial
import FmtModel.Py.Cal
import FmtModel.Classes.Datetime
import FmtModel.Classes.Naming
import FmtModel.Classes.Version
import FmtModel.Py.Dec
import FmtModel.Classes.Storage
import FmtModel.Drv.Fmt
import FmtModel.Const
import FmtModel.Group
import FmtModel.Members
import FmtModel.Drv.Grp
import FmtModel.Assets
import FmtModel.Drv.Ast
import FmtModel.ConstHist
import FmtModel.Arith
import FmtModel.Drv.Ari
